/-
  Props.C19 — container objects refine their Python prototypes under any operation history.

  Object models (`Asn1.Container`: `SeqOf.step`, `Rec.step`, `Choice.step`) mirror
  pyasn1/type/univ.py as it is after the C19 `fix:` commits; the prototypes (`ListSpec`, `DictSpec`,
  `OptionSpec`) are plain list / dict / option programs.  Helper lemmas live in Proofs/Container*.
-/
import Asn1.Container
import Proofs.ContainerSeqOf
import Proofs.ContainerRec
import Proofs.ContainerChoice
import Proofs.ContainerDyn
import Proofs.KernelGate

namespace Asn1.C19
open Asn1.Container

/-- **SEQUENCE OF / SET OF refines the list prototype.**  From the object that represents any
    prototype state (`rep`: keys 0..n-1 in order; with or without a component type), along any
    history of allowed operations, every call returns what the prototype returns and the object
    ends as the representation of the prototype's final state — hence equal length, items,
    iteration order, isValue and abstract content after every step.
    `Allowed` leaves out what the documentation does not cover: writes beyond position N,
    `setComponentByPosition(i)` without value on an existing element of a container without component
    type, and (finding T5) reads beyond position N of a container with component type. -/
theorem seqOf_refines_list (typed : Bool) (s : ListSpec.St) (ops : List SeqOfOp)
    (hinv : ListSpec.Inv typed s) (hal : ListSpec.AllowedRun typed s ops) :
    SeqOf.run typed (ListSpec.rep typed s) ops =
      (ListSpec.rep typed (ListSpec.run typed s ops).1, (ListSpec.run typed s ops).2) :=
  (run_rep hinv ops hal).spec_eq

/-- the fresh object is the representation of "no list", so the theorem covers every history from
    a new `SequenceOf()` -/
theorem seqOf_refines_list_fresh (typed : Bool) (ops : List SeqOfOp)
    (hal : ListSpec.AllowedRun typed none ops) :
    SeqOf.run typed ⟨none⟩ ops =
      (ListSpec.rep typed (ListSpec.run typed none ops).1, (ListSpec.run typed none ops).2) :=
  (run_rep inv_none ops hal).spec_eq

/-
  Full statement (false of the code, finding T4-eq; dynamic-name records not covered):
    theorem seq_refines_dict : Rec.Inv fields st → ∀ ops,
      (Rec.run fields st ops).2 = (DictSpec.run fields (absD st) ops).2 ∧ absD (…).1 = (…).1
-/
/-- **SEQUENCE / SET with declared fields refines the dict prototype**, for histories that avoid
    (finding T4-eq) `==` in a state where the library raises instead of answering and `encode` of
    an object that is not a value.  Outputs are equal step by step and the abstraction `absD`
    (placeholders and the noValue sentinel both read as "unset") commutes with every step. -/
theorem seq_refines_dict_partial (fields : List FK) (hN : fields.length ≠ 0) (st : RecSt)
    (hinv : Rec.Inv fields st) (ops : List RecOp)
    (hal : ∀ (pre : List RecOp) (op : RecOp) (post : List RecOp), ops = pre ++ op :: post →
      Rec.Allowed fields (Rec.run fields st pre).1 op = true) :
    (Rec.run fields st ops).2 = (DictSpec.run fields (Rec.absD st) ops).2 ∧
    Rec.absD (Rec.run fields st ops).1 = (DictSpec.run fields (Rec.absD st) ops).1 ∧
    Rec.Inv fields (Rec.run fields st ops).1 :=
  -- the guard on a history passes to its tail from the next state on
  Sim.run (run := Rec.run fields) (run' := DictSpec.run fields)
    (ok := fun st ops => ∀ pre op post, ops = pre ++ op :: post →
      Rec.Allowed fields (Rec.run fields st pre).1 op = true)
    (fun _ => rfl) (fun _ => rfl) (fun _ _ _ => rfl) (fun _ _ _ => rfl)
    (fun _ op ops hinv hal => ⟨rec_step hinv hN op (hal [] op ops rfl),
      fun pre op' post he => hal (op :: pre) op' post (congrArg (op :: ·) he)⟩) ops st hinv hal

/-- **SEQUENCE / SET without componentType (dynamic names field-0, field-1, …) refines a growing
    list**: from the object that represents any prototype state, along any history of allowed
    operations (everything except `setComponentByPosition(i)` without value where it would store the
    noValue sentinel), results are equal step by step and the object stays the representation of
    the prototype state — names are exactly field-0 … field-(n-1) at all times. -/
theorem seq_dynamic_refines_list (s : DynSpec.St) (ops : List RecOp) (hal : DynSpec.AllowedRun s ops) :
    Rec.run [] (DynSpec.rep s) ops = (DynSpec.rep (DynSpec.run s ops).1, (DynSpec.run s ops).2) := by
  induction ops generalizing s with
  | nil => rfl
  | cons op ops ih => dsimp only [Rec.run, DynSpec.run]; rw [dyn_step s op hal.1, ih _ hal.2]

/-- the T4-eq region is not empty: after `values()` touched the absent OPTIONAL member, `==` with
    a fresh equal record raises the library error where the dict prototype answers True -/
theorem eq_after_read_raises :
    let fields := [FK.req, FK.opt, FK.dflt 7]
    let st := (Rec.run fields ⟨some [], 0⟩ [.setItemName 0 (.py 1), .values]).1
    (Rec.step fields st (.eqTo [.val 1, .hole, .hole])).2 = .libErr ∧
    (DictSpec.step fields (Rec.absD st) (.eqTo [.val 1, .hole, .val 7])).2 = .bool true := by
  decide +kernel

/-- **CHOICE refines the option prototype** — every operation, no guard: outputs equal, the
    abstraction commutes, the shape invariant is kept.  Touching a non-selected alternative with
    `instantiate=True` is a mutator of the prototype as well (select by touching, DESIGN T3). -/
theorem choice_refines_option (n : Nat) (hn : n ≠ 0) (st : ChoiceSt) (hinv : Choice.Inv n st)
    (ops : List ChoiceOp) :
    (Choice.run n st ops).2 = (OptionSpec.run n (Choice.absO st) ops).2 ∧
    Choice.absO (Choice.run n st ops).1 = (OptionSpec.run n (Choice.absO st) ops).1 ∧
    Choice.Inv n (Choice.run n st ops).1 :=
  choice_run hinv hn ops

/-- **a CHOICE holds at most one alternative at any time**: after any history from the fresh
    object at most one slot is not `noValue` -/
theorem choice_at_most_one (n : Nat) (hn : n ≠ 0) (ops : List ChoiceOp) :
    Choice.held (Choice.run n ⟨some [], none⟩ ops).1 ≤ 1 :=
  held_le_one (choice_run (inv_fresh n) hn ops).inv_fst

/-
  Full statement (false of the code, finding T5): without the `Allowed` hypothesis.
-/
/-- **ill-formed operations raise and change nothing**, SEQUENCE OF / SET OF: a position outside
    the documented range or a refused value (for multi-element assignments: the first one) gives
    IndexError / PyAsn1Error and the very same object state.  The guard `Allowed` excludes exactly
    finding T5 (reading beyond position N of a container with component type). -/
theorem illformed_noop_seqOf_partial (typed : Bool) (s : ListSpec.St) (op : SeqOfOp)
    (hinv : ListSpec.Inv typed s) (hill : ListSpec.illFormed typed s op = true)
    (hal : ListSpec.Allowed typed s op = true) :
    (SeqOf.step typed (ListSpec.rep typed s) op).2.isErr = true ∧
    (SeqOf.step typed (ListSpec.rep typed s) op).1 = ListSpec.rep typed s := by
  obtain ⟨h1, h2⟩ := list_illformed s op hill
  rw [(step_rep hinv op hal).spec_eq]
  exact ⟨h1, by rw [h2]⟩

/-- finding T5 on the model: reading position 5 of a three-element SEQUENCE OF INTEGER does not
    raise and leaves a six-element, valueless object -/
theorem t5_read_beyond_end_grows :
    let st := ListSpec.rep true (some [some 1, some 2, some 3])
    (SeqOf.step true st (.getItem 5)).2 = .comp .ph ∧
    SeqOf.len (SeqOf.step true st (.getItem 5)).1 = 6 ∧
    SeqOf.isValue (SeqOf.step true st (.getItem 5)).1 = false := by
  decide +kernel

/-- … SEQUENCE / SET with declared fields: unknown name or tag, position outside the declared
    fields, refused value -/
theorem illformed_noop_seq (fields : List FK) (hN : fields.length ≠ 0) (st : RecSt)
    (hinv : Rec.Inv fields st) (op : RecOp) (hill : DictSpec.illFormed fields op = true) :
    (Rec.step fields st op).2.isErr = true ∧ (Rec.step fields st op).1 = st :=
  rec_illformed hinv hN op hill

/-- **ill-formed operations raise and change nothing**, CHOICE -/
theorem illformed_noop_choice (n : Nat) (hn : n ≠ 0) (st : ChoiceSt) (hinv : Choice.Inv n st)
    (op : ChoiceOp) (hill : choiceIllFormed n op = true) :
    (Choice.step n st op).2.isErr = true ∧ (Choice.step n st op).1 = st :=
  choice_illformed hinv hn op hill

/-- **reads change nothing**, SEQUENCE OF / SET OF: len, iteration, `in`, slices, count, index,
    prettyPrint, ==, encode, `getComponentByPosition(instantiate=False)` and `s[i]` /
    `getComponentByPosition(i)` on an existing position leave the object exactly as it was -/
theorem reads_preserve_seqOf (typed : Bool) (s : ListSpec.St) (op : SeqOfOp)
    (hinv : ListSpec.Inv typed s) (hr : ListSpec.isReader typed s op = true)
    (hal : ListSpec.Allowed typed s op = true) :
    (SeqOf.step typed (ListSpec.rep typed s) op).1 = ListSpec.rep typed s := by
  rw [(step_rep hinv op hal).spec_eq, list_reader s op hr]

/-- … SEQUENCE / SET: len, keys, `in`, prettyPrint, ==, every accessor with `instantiate=False`,
    instantiating accessors on a member that holds a value, and `encode` of a value object leave
    the prototype state — hence length, isValue and abstract content — unchanged.  (`values()`,
    `items()` and instantiating accessors on an unset member are touches: they allocate the slots
    and give a DEFAULT member its default; `abs` is still unchanged, see `touch_preserves_abs`.) -/
theorem reads_preserve_seq (fields : List FK) (hN : fields.length ≠ 0) (st : RecSt)
    (hinv : Rec.Inv fields st) (op : RecOp) (hr : DictSpec.isReader fields (Rec.absD st) op = true)
    (hal : Rec.Allowed fields st op = true) :
    Rec.absD (Rec.step fields st op).1 = Rec.absD st ∧
    Rec.abs fields (Rec.step fields st op).1 = Rec.abs fields st ∧
    Rec.isValue fields (Rec.step fields st op).1 = Rec.isValue fields st := by
  have h : Rec.absD (Rec.step fields st op).1 = Rec.absD st := by
    rw [(rec_step hinv hN op hal).abs_eq, dict_reader _ op hr]
  exact ⟨h, by rw [abs_step_eq_dict hinv hN op hal, dict_reader _ op hr, abs_eq_dict hinv hN],
    by rw [isValue_abs hN, isValue_abs hN, h]⟩

/-- … CHOICE: len, keys, `in`, values, items, getComponent, getName, prettyPrint, ==, encode never
    touch the object -/
theorem reads_preserve_choice (n : Nat) (st : ChoiceSt) (op : ChoiceOp) (hr : pureReader op = true) :
    (Choice.step n st op).1 = st :=
  choice_reader n st op hr

/-- every dunder the scalar classes implement by forwarding to their payload is one `NoValue`
    plugs (or, for `__bytes__`, reaches the payload through the plugged `__index__`): on a schema
    object the payload is `noValue`, so the operation raises PyAsn1Error -/
theorem schema_scalar_ops_fail :
    Generated.scalarForwarded.all (fun d =>
      noValueRaises Generated.noValuePlugged d ||
      (d == "__bytes__" && noValueRaises Generated.noValuePlugged "__index__")) = true := by
  -- both tables are sorted: without `__bytes__` the forwarded dunders are a sublist of the plugged ones
  have hsub : (Generated.scalarForwarded.erase "__bytes__").Sublist Generated.noValuePlugged := by
    decide +kernel
  have hidx : noValueRaises Generated.noValuePlugged "__index__" = true := by decide +kernel
  refine List.all_eq_true.mpr fun d hd => ?_
  by_cases hb : d = "__bytes__"
  · rw [hb, hidx]; simp
  · have hm : d ∈ Generated.noValuePlugged := hsub.subset ((List.mem_erase_of_ne hb).mpr hd)
    rw [noValueRaises, List.contains_iff_mem.mpr hm]; rfl

/-! ### non-vacuity -/

/-- a history with appends, reverse, slice assignment, clone, reads and an ill-formed write is
    allowed from the fresh typed object … -/
example : ListSpec.AllowedRun true none
    [.append (.py 3), .extend [.py 1, .obj 2], .getItem 3, .setItem 3 (.py 9), .reverse,
     .setSlice (some 0) (some 2) [.py 5, .py 6], .clone true, .setItem (-9) (.py 1), .setItem 0 .bad, .contains 5, .encode] := by
  decide +kernel

/-- … and the prototype ends with the list [5, 6, 1, 3] -/
example : (ListSpec.run true none
    [.append (.py 3), .extend [.py 1, .obj 2], .getItem 3, .setItem 3 (.py 9), .reverse,
     .setSlice (some 0) (some 2) [.py 5, .py 6], .clone true, .contains 5, .encode]).1
    = some [some 5, some 6, some 1, some 3] := by
  decide +kernel

/-- the record invariant holds of the fresh object and of a padded one -/
example : Rec.Inv [FK.req, FK.opt, FK.dflt 7] ⟨some [], 0⟩ :=
  ⟨rfl, by intro l hl; cases hl; exact ⟨.inl rfl, by intro k d _; simp⟩⟩

example : DictSpec.illFormed [FK.req, FK.opt] (.setItemName 2 (.py 1)) = true := by decide
example : ListSpec.illFormed true (some [some 1]) (.getItem (-2)) = true := by decide
example : choiceIllFormed 2 (.setItemPos 2 (.py 1)) = true := by decide
example : Choice.Inv 2 ⟨some [], none⟩ := inv_fresh 2
example : (DynSpec.run none [.setItemPos 0 (.obj 4), .setItemPos 1 (.obj 5), .setItemName 0 (.py 7), .setItemPos 3 (.obj 1),
    .getItemName 1, .clone true, .keys]).1 = some [7, 5] := by decide +kernel

/-! ### at the source level: how SEQUENCE OF / SET OF objects read an index -/

/-- **index normalisation at the source level is the list model's**: the statement `if idx < 0: idx = len(self) + idx; if
    idx < 0: raise ...` as it stands in `SequenceOfAndSetOfBase.getComponentByPosition` and in `setComponentByPosition`
    (translated from /repo on this run into `GenK.seqOfGetIdx` / `GenK.seqOfSetIdx`, `len(self)` a parameter) computes the
    model's `SeqOf.normIdx` for every object state and every integer index: as a Python list counts, and the library's error
    - not a wrap-around - before the front -/
theorem source_index_normalisation_is_model (st : SeqOfSt) (i : Int) :
    GenK.seqOfGetIdx (SeqOf.len st : Int) i = Kernels.liftIdx (SeqOf.normIdx st i) ∧
      GenK.seqOfSetIdx (SeqOf.len st : Int) i = Kernels.liftIdx (SeqOf.normIdx st i) :=
  ⟨Kernels.seqOfGetIdx_kernel st i, Kernels.seqOfSetIdx_kernel st i⟩

/-- an index before the front of an `n`-element object is refused, never mapped onto an element -/
theorem source_index_before_front_is_refused (st : SeqOfSt) (i : Int) (h : i < -(SeqOf.len st : Int)) :
    GenK.seqOfGetIdx (SeqOf.len st : Int) i = .error (.lib "PyAsn1Error") := by
  rw [Kernels.seqOfGetIdx_kernel]
  have h0 : ¬ (0 ≤ i) := by omega
  have h1 : ¬ (0 ≤ (SeqOf.len st : Int) + i) := by omega
  simp [SeqOf.normIdx, h0, h1, Kernels.liftIdx]

/-- non-vacuity: three elements; -1 is the last, -3 the first, -4 refused -/
example : GenK.seqOfGetIdx 3 (-1) = .ok 2 := by rfl
example : GenK.seqOfGetIdx 3 (-3) = .ok 0 := by rfl
example : GenK.seqOfGetIdx 3 (-4) = .error (.lib "PyAsn1Error") := by rfl
example : GenK.seqOfSetIdx 3 5 = .ok 5 := by rfl

end Asn1.C19
