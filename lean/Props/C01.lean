/-
  Props.C01 — BER encode/decode round trip under every encoder mode.
-/
import Asn1.Generated
import Proofs.Parse
import Proofs.Fuel
import Proofs.RoundTrip
import Proofs.Kernels
import Proofs.KernelReal
import Proofs.KernelRealDec
import Proofs.KernelLen

namespace Asn1.C01

/-- framing half of the round trip: any well-formed element, in any length form and any mix of
    definite/indefinite nesting, followed by any bytes, is read back as itself with the tail intact -/
theorem framing_roundtrip (t : TLV) (tail : Bytes) (hw : t.WF) :
    parseOne Generated.berDecByType.parse (t.ser ++ tail) = .ok (t, tail) :=
  parseOne_ser _ t tail hw (Or.inl (by decide))

/-- the BER codec tables extracted from the source are inside the region of the round-trip proof -/
theorem ber_region (o : EncOpts) (hi : o.ifNotEmpty = false) :
    Region Generated.berEnc Generated.berDecByType o :=
  { seqOmit := rfl, setOrd := rfl, sortOf := rfl, chunk := Or.inr ⟨rfl, by decide⟩, ine := hi,
    bool := by intro b hd tg; cases b <;> rfl }

theorem ber_region_byTag (o : EncOpts) (hi : o.ifNotEmpty = false) :
    Region Generated.berEnc Generated.berDecByTag o :=
  { seqOmit := rfl, setOrd := rfl, sortOf := rfl, chunk := Or.inr ⟨rfl, by decide⟩, ine := hi,
    bool := by intro b hd tg; cases b <;> rfl }

/-- **BER round trip, every encoder mode** (partial in the type universe only: types without ANY and
    REAL; in indefinite mode no explicit tag over BOOLEAN/INTEGER/ENUMERATED/NULL/OBJECT IDENTIFIER —
    that is finding E1, where the real encoder writes a stray end-of-octets).
    For every well-formed type of the region, every complete value of it, definite or indefinite
    mode, every `maxChunkSize`, any nesting depth, any tag classes and numbers, any lengths:
    whatever `encode` returns, followed by any octets, `decode` against the same type gives back
    the value and exactly those octets. -/
theorem ber_roundtrip_partial (defMode : Bool) (maxChunk : Nat) (t : Ty) (v : Val) (b tail : Bytes)
    (hreg : t.reg false Generated.berEnc defMode = true) (hwf : t.WF = true) (hty : HasType t v = true)
    (h : encItem Generated.berEnc { defMode := defMode, maxChunk := maxChunk } t v = .ok b) :
    decodeOne Generated.berDecByType t (b ++ tail) = .ok (v, tail) :=
  roundtrip_item Generated.berEnc Generated.berDecByType { defMode := defMode, maxChunk := maxChunk }
    (ber_region _ rfl) rfl t v b tail hreg hwf hty h

/-- the hypotheses are met by a non-trivial case: a SEQUENCE with an explicitly tagged OCTET STRING,
    an absent OPTIONAL and a SET OF INTEGER, in indefinite mode with one-octet chunks -/
example :
    let t : Ty := .seq (.cons .req (.tagged true .context 0 (.prim (.str 4)))
      (.cons .opt (.prim .boolean) (.cons .req (.setOf (.prim .integer)) .nil)))
    let v : Val := .seq [.str [1, 2], .absent, .seqOf [.int 5, .int (-300)]]
    t.reg false Generated.berEnc false = true ∧ t.WF = true ∧ HasType t v = true ∧
      (encItem Generated.berEnc { defMode := false, maxChunk := 1 } t v).toOption.isSome = true := by
  decide +kernel

/-! ### at the source level: kernels translated from /repo on this run (gen/py2lean.py → Asn1/GenKernels.lean) -/

/-- **OBJECT IDENTIFIER contents round-trip through the source's own loops**: what the body of
    `ObjectIdentifierEncoder.encodeValue` writes for a tuple of arcs, the body of
    `ObjectIdentifierPayloadDecoder.valueDecoder` reads back as those arcs — every arc list the encoder
    accepts, arcs of any size -/
theorem source_oid_roundtrip (arcs : List Nat) (c : Bytes) (h : oidToContent arcs = some c) :
    GenK.oidEncode (Kernels.ints arcs) = .ok (Kernels.bytesInts c, false, false) ∧
    GenK.oidDecode (Kernels.bytesInts c) = .ok (Kernels.ints arcs) := by
  refine ⟨by rw [Kernels.oidEncode_kernel, h]; rfl, ?_⟩
  rw [Kernels.oidDecode_kernel c (oidToContent_ne_nil h), oidFromContent_oidToContent arcs c h]
  rfl

/-- **INTEGER contents**: `to_bytes(value, signed=True)` as it is in the source writes octets that the
    decoder model's `from_bytes` reads back as the value, for every integer -/
theorem source_integer_roundtrip (z : Int) :
    ∃ c : Bytes, GenK.toBytes z true 0 = .ok (Kernels.bytesInts c) ∧ intFromBytes c = z :=
  ⟨intToBytes z, Kernels.toBytes_kernel z, intFromBytes_intToBytes z⟩

/-- the same with the decoder side at the source level too: the octets the translated `to_bytes` writes, the
    translated body of `IntegerPayloadDecoder.valueDecoder` (which calls the translated `from_bytes`) reads back as
    the integer - every integer -/
theorem source_integer_roundtrip_both (z : Int) :
    ∃ c : Py.Tup, GenK.toBytes z true 0 = .ok c ∧ GenK.intDecode c = .ok z :=
  ⟨Kernels.bytesInts (intToBytes z), Kernels.toBytes_kernel z, by
    rw [Kernels.intDecode_kernel, intFromBytes_intToBytes]⟩

example : GenK.intDecode [255, 127] = .ok (-129) := by rfl

/-- **binary REAL contents, at the source level**: what the translated body of `RealEncoder.encodeValue` writes for a
    non-zero mantissa and any exponent (encoding base 2), the translated binary branch of
    `RealPayloadDecoder.valueDecoder` reads back as a (mantissa, 2, exponent) triple denoting the same number
    (`realKey` = the normal form with odd mantissa) -/
theorem source_real_roundtrip (m e : Int) (hm : m ≠ 0) (c : Bytes) (h : realBinToContent m e = some c) :
    GenK.realBin (if m < 0 then -1 else 1) (m.natAbs : Int) 2 e = .ok (Kernels.bytesInts c) ∧
    ∃ (fo : UInt8) (rest : Bytes) (p e' : Int), c = fo :: rest ∧
      GenK.realDec (fo.toNat : Int) (Kernels.bytesInts rest) = .ok [p, 2, e'] ∧
      realKey (.fin p 2 e') = realKey (.fin m 2 e) := by
  refine ⟨by rw [Kernels.realBin_kernel m e hm, h]; rfl, ?_⟩
  obtain ⟨fo, rest, hc, hfo⟩ := Kernels.realBinToContent_head m e c hm h
  obtain ⟨r, hr, hk⟩ := realFromContent_realBinToContent m e c hm h
  subst hc
  have hkey : ∃ p' e', realKey (.fin m 2 e) = .fin p' 2 e' := by
    simp only [realKey, hm, if_false, if_true]; exact ⟨_, _, rfl⟩
  obtain ⟨p', e'', hkey⟩ := hkey
  rw [hkey] at hk
  cases r with
  | pinf => simp [realKey] at hk
  | minf => simp [realKey] at hk
  | fin p b e' =>
    have hb2 : b = 2 := by
      simp only [realKey] at hk
      split at hk
      · cases hk
      · split at hk
        · assumption
        · cases hk; rfl
    subst hb2
    refine ⟨fo, rest, p, e', rfl, ?_, by rw [hkey]; exact hk⟩
    rw [Kernels.realDec_kernel fo rest hfo, hr]
    rfl

example : GenK.realDec 192 [3, 5] = .ok [-5, 2, 3] := by rfl

example : GenK.oidDecode [43, 6, 1, 4, 1, 134, 141, 31] = .ok [1, 3, 6, 1, 4, 1, 99999] := by rfl

end Asn1.C01
