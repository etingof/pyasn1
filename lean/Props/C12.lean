/-
  Props.C12 — codec calls are pure.  The model's codec functions are mathematical functions, so in
  the model a result cannot depend on history; what is proved here is that the one piece of
  decoder state the source keeps between elements — the tag caches — cannot be observed.
-/
import Asn1.Generated
import Asn1.World

namespace Asn1.C12

theorem lookup_mem (c : TagCache) (o : UInt8) (t : Tag) (h : c.lookup o = some t) : (o, t) ∈ c := by
  induction c with
  | nil => exact nomatch h
  | cons p rest ih =>
    obtain ⟨k, t'⟩ := p
    rw [TagCache.lookup] at h
    split at h
    next hk =>
      obtain rfl := Option.some.inj h
      exact hk ▸ List.mem_cons_self
    next => exact List.mem_cons_of_mem _ (ih h)

theorem decodeTag_short (b : UInt8) (rest : Bytes) (h : b.toNat % 32 ≠ 31) :
    decodeTag (b :: rest) = .ok (⟨TagClass.ofBits b.toNat, b.toNat / 32 % 2 = 1, b.toNat % 32⟩, rest) := by
  simp [decodeTag, h]

/-- **the tag cache is transparent**: under the invariant, decoding through the cache gives exactly
    the uncached answer, and the invariant is preserved — so after any history of decodes the next
    decode behaves as if it ran alone (induction over the history follows from the second part) -/
theorem cache_transparent (c : TagCache) (bs : Bytes) (hi : c.Inv) :
    (decodeTagCached c bs).1 = decodeTag bs ∧ (decodeTagCached c bs).2.Inv := by
  cases bs with
  | nil => exact ⟨rfl, hi⟩
  | cons b rest =>
    rw [decodeTagCached]
    cases hl : c.lookup b with
    | some t => exact ⟨((hi b t (lookup_mem c b t hl)).2 rest).symm, hi⟩
    | none =>
      cases hd : decodeTag (b :: rest) with
      | error e => exact ⟨rfl, hi⟩
      | ok p =>
        obtain ⟨t, r⟩ := p
        refine ⟨rfl, ?_⟩
        show TagCache.Inv (if b.toNat % 32 = 31 then c else (b, t) :: c)
        split
        · exact hi
        next h31 =>
          -- the new entry: a short-form octet determines the tag, whatever follows it
          intro o t' hm
          rcases List.mem_cons.mp hm with heq | hm'
          · obtain ⟨rfl, rfl⟩ := Prod.mk.inj heq
            rw [decodeTag_short _ rest h31] at hd
            obtain ⟨rfl, -⟩ := Prod.mk.inj (Except.ok.inj hd)
            exact ⟨h31, fun rest' => decodeTag_short _ rest' h31⟩
          · exact hi o t' hm'

/-- a whole history of cached decodes: every answer equals the uncached one -/
theorem cache_transparent_history (inputs : List Bytes) :
    ∀ (c : TagCache), c.Inv →
      (inputs.foldl (fun (acc : TagCache × List (Res (Tag × Bytes))) bs =>
          let r := decodeTagCached acc.1 bs; (r.2, acc.2 ++ [r.1])) (c, [])).2
        = inputs.map decodeTag := by
  suffices h : ∀ (c : TagCache) (done : List (Res (Tag × Bytes))), c.Inv →
      (inputs.foldl (fun (acc : TagCache × List (Res (Tag × Bytes))) bs =>
          let r := decodeTagCached acc.1 bs; (r.2, acc.2 ++ [r.1])) (c, done)).2
        = done ++ inputs.map decodeTag by
    intro c hc; simpa using h c [] hc
  induction inputs with
  | nil => intro c done _; simp
  | cons bs rest ih =>
    intro c done hc
    obtain ⟨h1, h2⟩ := cache_transparent c bs hc
    simp only [List.foldl_cons, List.map_cons]
    rw [ih _ _ h2, h1]
    simp

/-- the empty cache (a fresh `SingleItemDecoder`) satisfies the invariant -/
theorem empty_cache_inv : TagCache.Inv [] := by
  intro o t h; simp at h

/-- a long-form first octet must never be cached: the octet does not determine the tag
    (two different tags, same first octet) — the counterexample behind the invariant's side condition -/
theorem long_form_not_cacheable :
    ∃ (a b : Bytes) (ta tb : Tag), a.head? = b.head? ∧
      decodeTag a = .ok (ta, []) ∧ decodeTag b = .ok (tb, []) ∧ ta ≠ tb :=
  ⟨[0x5f, 0x1f], [0x5f, 0x7f], ⟨.application, false, 31⟩, ⟨.application, false, 127⟩,
   by decide, by rfl, by rfl, by decide⟩

end Asn1.C12
