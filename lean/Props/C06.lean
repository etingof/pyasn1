/-
  Props.C06 — truncated input is reported as insufficient data at every cut point.
-/
import Asn1.Generated
import Proofs.Fuel
import Proofs.EncSpec
import Props.C02
import Props.C18
import Props.C05

namespace Asn1.C06

/-- **every proper prefix of a well-formed encoding is an underrun** for the one-shot decoder's
    framing, whatever the guiding type: the element is never delivered and never called malformed.
    `t` ranges over all well-formed TLV trees — any tags, any legal length forms, definite or
    indefinite at every level, unbounded size and depth; `k` over every cut point. -/
theorem prefix_underrun (cfg : DecCfg) (ty : Ty) (t : TLV) (k : Nat)
    (hw : t.WF) (ho : t.okFor cfg.parse) (hk : k < t.ser.length) :
    decodeOne cfg ty (t.ser.take k) = .error .underrun := by
  unfold decodeOne
  rw [parseOne_take cfg.parse t k hw ho hk]

/-- the same for the three decoders of the library as configured in the source -/
theorem prefix_underrun_ber (ty : Ty) (t : TLV) (k : Nat) (hw : t.WF) (hk : k < t.ser.length) :
    decodeOne Generated.berDecByType ty (t.ser.take k) = .error .underrun :=
  prefix_underrun _ ty t k hw (Or.inl (by decide)) hk

theorem prefix_underrun_cer (ty : Ty) (t : TLV) (k : Nat) (hw : t.WF) (hk : k < t.ser.length) :
    decodeOne Generated.cerDecByType ty (t.ser.take k) = .error .underrun :=
  prefix_underrun _ ty t k hw (Or.inl (by decide)) hk

theorem prefix_underrun_der (ty : Ty) (t : TLV) (k : Nat) (hw : t.WF) (hd : t.allDef = true)
    (hk : k < t.ser.length) :
    decodeOne Generated.derDecByType ty (t.ser.take k) = .error .underrun :=
  prefix_underrun _ ty t k hw (Or.inr hd) hk

/-- **every proper prefix of an encoding the library writes is reported as insufficient data** - for every type of
    the codec region and every value, BER in any mode (definite/indefinite, any chunk size), DER and CER, decoded with
    the guiding type by any decoder that can read the complete encoding: cut anywhere, the answer is the
    insufficient-data class, never a value and never another error -/
theorem encoding_prefix_underrun (cfg : EncCfg) (dcfg : DecCfg) (pf : Profile) (o : EncOpts) (hi : o.ifNotEmpty = false)
    (hR : EncRegion cfg pf (cfg.fixedChunk.getD o.maxChunk))
    (hparse : cfg.fixedDefMode.getD o.defMode = true ∨ dcfg.parse.allowIndef = true)
    (t : Ty) (v : Val) (b : Bytes) (hreg : t.reg true cfg (cfg.fixedDefMode.getD o.defMode) = true) (hwf : t.WF = true)
    (hty : HasType t v = true) (hn : noE3 cfg.seqOmitEmpty t v = true) (h : encItem cfg o t v = .ok b)
    (k : Nat) (hk : k < b.length) : decodeOne dcfg t (b.take k) = .error .underrun := by
  obtain ⟨x, rfl, hxw, hok, _⟩ := encItem_spec cfg dcfg pf o hi hR hparse t v b hreg hwf hty hn h
  exact prefix_underrun dcfg t x k hxw hok hk

/-! instances for the generated configurations -/

theorem ber_encoding_prefix_underrun (o : EncOpts) (hi : o.ifNotEmpty = false) (t : Ty) (v : Val) (b : Bytes)
    (hreg : t.reg true Generated.berEnc o.defMode = true) (hwf : t.WF = true) (hty : HasType t v = true)
    (h : encItem Generated.berEnc o t v = .ok b) (k : Nat) (hk : k < b.length) :
    decodeOne Generated.berDecByType t (b.take k) = .error .underrun :=
  encoding_prefix_underrun Generated.berEnc Generated.berDecByType berProfile o hi (C18.ber_enc_region o) (Or.inr rfl)
    t v b hreg hwf hty (noE3_false t v) h k hk

theorem der_encoding_prefix_underrun (o : EncOpts) (hi : o.ifNotEmpty = false) (t : Ty) (v : Val) (b : Bytes)
    (hreg : t.reg true Generated.derEnc true = true) (hwf : t.WF = true) (hty : HasType t v = true)
    (hn : noE3 true t v = true) (h : encItem Generated.derEnc o t v = .ok b) (k : Nat) (hk : k < b.length) :
    decodeOne Generated.derDecByType t (b.take k) = .error .underrun ∧
    decodeOne Generated.berDecByType t (b.take k) = .error .underrun :=
  ⟨encoding_prefix_underrun Generated.derEnc Generated.derDecByType derProfile o hi (C02.der_region o) (Or.inl rfl)
      t v b hreg hwf hty hn h k hk,
   encoding_prefix_underrun Generated.derEnc Generated.berDecByType derProfile o hi (C02.der_region o) (Or.inl rfl)
      t v b hreg hwf hty hn h k hk⟩

theorem cer_encoding_prefix_underrun (o : EncOpts) (hi : o.ifNotEmpty = false) (t : Ty) (v : Val) (b : Bytes)
    (hreg : t.reg true Generated.cerEnc false = true) (hwf : t.WF = true) (hty : HasType t v = true)
    (hn : noE3 true t v = true) (h : encItem Generated.cerEnc o t v = .ok b) (k : Nat) (hk : k < b.length) :
    decodeOne Generated.cerDecByType t (b.take k) = .error .underrun :=
  encoding_prefix_underrun Generated.cerEnc Generated.cerDecByType cerProfile o hi (C02.cer_region o) (Or.inr rfl)
    t v b hreg hwf hty hn h k hk

/-- the error hierarchy of the source: end-of-stream is an insufficient-data error, which is a
    library error (generated table) -/
theorem error_hierarchy :
    ("EndOfStreamError", "SubstrateUnderrunError") ∈ Generated.errorSubclass ∧
    ("SubstrateUnderrunError", "PyAsn1Error") ∈ Generated.errorSubclass ∧
    ("EndOfStreamError", "PyAsn1Error") ∈ Generated.errorSubclass := by
  decide +kernel

/-! ### at the source level: a read that the stream cannot satisfy, as `readFromStream` is in /repo on this run -/

/-- **a stream that ends before the octets asked for, still open: an underrun and nothing else** - the translated turn of
    `readFromStream` (`GenK.readTurn`, regenerated from codec/streaming.py), whatever the sizes of the short reads (`cap`),
    hands out no octets, raises nothing, and leaves the position where the turn began - for every stream content `d`,
    every position inside it and every request that reaches past its end -/
theorem source_truncated_open_is_underrun (d : Bytes) (cap pos n : Nat) (hn : n ≤ 1048576) (hp : pos ≤ d.length)
    (hshort : d.length < pos + n) :
    GenK.readTurn (Kernels.rdOf d false cap) (pos : Int) (n : Int) = .ok (none, (pos : Int)) := by
  rw [C05.source_underrun_only_when_missing .seekable (by decide) d false cap pos n hn hp,
    Stream.readAns_of_lt hshort]
  rfl

/-- **the same stream once it is closed: EndOfStreamError and nothing else** - never the octets that are there, never
    another error (with `error_hierarchy`: an insufficient-data error) -/
theorem source_truncated_closed_is_end_of_stream (d : Bytes) (cap pos n : Nat) (hn : n ≤ 1048576) (hp : pos ≤ d.length)
    (hshort : d.length < pos + n) :
    GenK.readTurn (Kernels.rdOf d true cap) (pos : Int) (n : Int) = .error (.lib "EndOfStreamError") := by
  rw [C05.source_underrun_only_when_missing .seekable (by decide) d true cap pos n hn hp,
    Stream.readAns_of_lt hshort]
  rfl

/-- and conversely a read the stream can satisfy is never reported as an underrun: the octets, the position past them -/
theorem source_complete_read_is_data (d : Bytes) (closed : Bool) (cap pos n : Nat) (hn : n ≤ 1048576)
    (hfull : pos + n ≤ d.length) :
    GenK.readTurn (Kernels.rdOf d closed cap) (pos : Int) (n : Int) =
      .ok (some (Kernels.bytesInts ((d.drop pos).take n)), ((pos + n : Nat) : Int)) := by
  rw [C05.source_underrun_only_when_missing .seekable (by decide) d closed cap pos n hn (by omega),
    Stream.readAns_of_le hfull]
  have hm : min n (d.length - pos) = n := by omega
  simp [Kernels.liftAns, hm]

/-- non-vacuity: the 5-octet element `30 03 02 01 05` cut after 3 octets, its 3-octet body asked at position 2 -/
example : GenK.readTurn (Kernels.rdOf [0x30, 0x03, 0x02] false 0) 2 3 = .ok (none, 2) := by rfl
example : GenK.readTurn (Kernels.rdOf [0x30, 0x03, 0x02] true 0) 2 3 = .error (.lib "EndOfStreamError") := by rfl
example : GenK.readTurn (Kernels.rdOf [0x30, 0x03, 0x02, 0x01, 0x05] true 0) 2 3 = .ok (some [2, 1, 5], 5) := by rfl

/-- non-vacuity: a concrete well-formed nested element (SEQUENCE, indefinite, holding an INTEGER) -/
example : (TLV.cons [0x30, 0x80] ⟨.universal, true, 16⟩ true
            [TLV.prim [0x02, 0x01] ⟨.universal, false, 2⟩ [5]]).WF := by
  refine ⟨⟨[0x30], [0x80], rfl, ?_, ?_⟩, rfl, ⟨⟨⟨[0x02], [0x01], rfl, ?_, ?_⟩, rfl⟩, trivial⟩, ?_⟩
  · intro r; rfl
  · intro r; rfl
  · intro r; rfl
  · intro r; rfl
  · refine ⟨?_, trivial⟩
    intro rest h
    simp [TLV.ser] at h

end Asn1.C06
