/-
  Props.C11 — decoding result does not depend on the kind of input object.

  Model: Asn1/Stream.lean (c) `Wrapper` (CachingStreamWrapper over a model of io.BytesIO) next to
  `Ref` (a seekable stream over the same octets); (a) the stream kinds of `run`.
  Known finding S4 (`S4-wrapper-renumber`): setting the mark more than io.DEFAULT_BUFFER_SIZE octets
  into the cache drops the cache *and renumbers positions*; tests/codec/test_streaming.py
  testMarkedPositionResets demands `markedPosition == 0` after the drop, so `tell()` must restart too
  (AnyPayloadDecoder subtracts one from the other) and the `tell() - original_position` loops of the
  definite-length container decoders break across a drop.  The full statement
      ∀ d ops, Pre ops → Wrapper.runOps B {raw := d} ops = Ref.runOps {data := d} ops
  is therefore false (`wrapper_full_statement_fails`); proved instead: the octets always agree and
  positions agree up to the renumbering offset (`wrapper_refines`), and everything agrees for
  histories that never trigger a drop (`wrapper_refines_partial`).
-/
import Asn1.Generated
import Proofs.StreamWrapper
import Proofs.StreamIter
import Proofs.KernelStream

namespace Asn1.C11

open Asn1.Stream

variable {ε α : Type}

/-- **the seek-back wrapper behaves like a seekable stream over the same octets** for every
    history of reads, peeks, tell, set-mark, seek back by k (to ≥ mark) and seek to the mark: the
    same octets come back, and every position it reports is the reference's position minus the
    number of octets dropped from the cache so far (the renumbering offset). -/
theorem wrapper_refines (B : Nat) (d : Bytes) (ops : List WOp) (hpre : Ref.preAll { data := d } ops = true)
    (hrel : ∀ op ∈ ops, op.relative = true) :
    Wrapper.runOpsAbs B { raw := d } ops = Ref.runOps { data := d } ops :=
  runOpsAbs_eq B ops _ _ (Sim.init d) hpre hrel

/-- for histories that never trigger a cache drop (no mark is set more than `B` octets from the
    start) the outputs are identical as they are, absolute seeks (to ≥ mark, ≤ current) included -/
theorem wrapper_refines_partial (B : Nat) (d : Bytes) (ops : List WOp)
    (hpre : Ref.preAll { data := d } ops = true) (hnd : Ref.noDrop B { data := d } ops = true) :
    Wrapper.runOps B { raw := d } ops = Ref.runOps { data := d } ops :=
  runOps_eq_nodrop B ops _ _ (Sim.init d) rfl hpre hnd

/-- the renumbering, as the source has it (`B` = io.DEFAULT_BUFFER_SIZE from the translator): read
    B+1 octets, set the mark, ask for the position — the wrapper says 0, a seekable stream B+1 -/
theorem wrapper_renumber_witness (d : Bytes) (hd : Generated.defaultBufferSize + 1 ≤ d.length) :
    Wrapper.runOps Generated.defaultBufferSize { raw := d }
        [.read (Generated.defaultBufferSize + 1), .setMark, .tell] =
      [.bytes (d.take (Generated.defaultBufferSize + 1)), .unit, .nat 0] ∧
    Ref.runOps { data := d } [.read (Generated.defaultBufferSize + 1), .setMark, .tell] =
      [.bytes (d.take (Generated.defaultBufferSize + 1)), .unit, .nat (Generated.defaultBufferSize + 1)] :=
  renumber_witness _ d hd

/-- hence the unrestricted statement fails on the model (and, replayed by the check, on the code) -/
theorem wrapper_full_statement_fails :
    ¬ (∀ (d : Bytes) (ops : List WOp), Ref.preAll { data := d } ops = true →
        Wrapper.runOps Generated.defaultBufferSize { raw := d } ops = Ref.runOps { data := d } ops) := by
  intro h
  have hl : Generated.defaultBufferSize + 1 ≤ (List.replicate (Generated.defaultBufferSize + 1) (0 : UInt8)).length := by
    simp
  have hw := wrapper_renumber_witness _ hl
  have hp : ∀ (r : Ref) (n : Nat), r.preAll [.read n, .setMark, .tell] = true := fun _ _ => rfl
  have := h (List.replicate (Generated.defaultBufferSize + 1) 0)
    [.read (Generated.defaultBufferSize + 1), .setMark, .tell] (hp _ _)
  rw [hw.1, hw.2] at this
  simp only [List.cons.injEq, WOut.nat.injEq, and_true, true_and] at this
  omega

/-- the composite accesses the decoder makes respect the precondition: a read followed by putting
    back what it returned (readFromStream's own rewind of a short read; the two octets of the
    end-of-octets probe), seeking to the mark, setting the mark, asking for the position -/
theorem decoder_respects_pre (r : Ref) (hm : r.mark ≤ r.pos) (n : Nat) :
    r.preAll [.read n, .seekCur (bioRead r.data r.pos n).length] = true ∧
    r.preAll [.seekMark] = true ∧ r.preAll [.setMark] = true ∧ r.preAll [.tell] = true ∧
    r.preAll [.peek n] = true := by
  refine ⟨?_, rfl, rfl, rfl, rfl⟩
  simp only [Ref.preAll, Ref.pre, Ref.step, Bool.and_true, Bool.true_and, Bool.and_eq_true]
  exact ⟨decide_eq_true (by omega), decide_eq_true (by omega)⟩

/-- **kind independence, when no drop can occur**: if the whole input fits the buffer a program
    cannot tell the non-seekable stream behind the wrapper from a seekable one — same result,
    position, yielded objects, suspensions — on any data, open or closed -/
theorem kind_independent_partial (B : Nat) (d : Bytes) (cl : Bool) (hd : d.length ≤ B) (p : Prog ε α) :
    run .wrapped B d cl p {} = run .seekable B d cl p {} :=
  run_wrapped_eq_seekable B d cl hd p {} (Nat.zero_le _) (Nat.zero_le _)

/-- … and under every arrival schedule -/
theorem kind_independent_sched_partial (B : Nat) (chunks : List Bytes) (hd : chunks.flatten.length ≤ B)
    (p : Prog ε α) (hp : p.NoReadAll) :
    runSched .wrapped B [] chunks p {} = runSched .seekable B [] chunks p {} := by
  have h1 := runSched_eq .wrapped stable_wrapped B chunks [] p {} hp
  have h2 := runSched_eq .seekable stable_seekable B chunks [] p {} hp
  simp only [List.nil_append] at h1 h2
  rw [h1, h2]
  exact kind_independent_partial B _ true hd p

/-- a BytesIO and a closed seekable stream over the same complete octets answer every primitive
    alike (bytes / BytesIO / OCTET STRING value / file / gzip reader are all one of these two) -/
theorem complete_kinds_agree (B : Nat) (d : Bytes) (p : Prog ε α) (s : St ε) (hp : s.pos ≤ d.length)
    (hm : s.mark ≤ d.length) : run .bytesIO B d true p s = run .seekable B d true p s := by
  refine run_kind_congr .bytesIO .seekable B d true (fun _ _ => rfl) (fun _ => rfl)
    (fun pos hpos => by rw [eosAns_closed _ d pos hpos, eosAns_closed _ d pos hpos]) (fun s _ => ?_)
    p s hp hm
  simp [St.setMark]

/-! ### at the source level: the methods of `CachingStreamWrapper`, translated from /repo on this run -/

/-- `CachingStreamWrapper.read(n)` of codec/streaming.py (translated by gen/py2lean.py into `GenK.wrapRead`: the
    `io.BytesIO` cache a value threaded through, the answer of `self._raw.read(...)` a parameter) is the `read` step of the
    wrapper model about which `wrapper_refines` is stated: same octets handed out, same cache and position afterwards -/
theorem source_wrapper_read_is_model (w : Wrapper) (n : Nat) (hc : w.cpos ≤ w.cache.length) :
    GenK.wrapRead (some (Kernels.bytesInts (w.raw.take (n - (bioRead w.cache w.cpos n).length)))) (n : Int) (Kernels.bioOf w) =
      .ok (some (Kernels.bytesInts (w.read n).1), Kernels.bioOf (w.read n).2) :=
  Kernels.wrapRead_kernel w n hc

/-- hence, by `read_spec`: whenever wrapper and seekable reference are in step (`Sim`), the translated `read` hands out
    exactly the octets the seekable stream hands out -/
theorem source_wrapper_read_like_seekable (w : Wrapper) (r : Ref) (n : Nat) (h : Sim w r) :
    ∃ cache', GenK.wrapRead (some (Kernels.bytesInts (w.raw.take (n - (bioRead w.cache w.cpos n).length)))) (n : Int)
        (Kernels.bioOf w) = .ok (some (Kernels.bytesInts (bioRead r.data r.pos n)), cache') := by
  refine ⟨Kernels.bioOf (w.read n).2, ?_⟩
  rw [Kernels.wrapRead_kernel w n h.cpos_le, (read_spec w r n h).1]

/-- `CachingStreamWrapper.read(-1)`, translated likewise, is the `readAll` step of the wrapper model -/
theorem source_wrapper_readall_is_model (w : Wrapper) (hc : w.cpos ≤ w.cache.length) :
    GenK.wrapRead (some (Kernels.bytesInts w.raw)) (-1) (Kernels.bioOf w) =
      .ok (some (Kernels.bytesInts w.readAll.1), Kernels.bioOf w.readAll.2) :=
  Kernels.wrapReadAll_kernel w hc

/-- `peek(n)`: the model's `peek` step -/
theorem source_wrapper_peek_is_model (w : Wrapper) (n : Nat) (hc : w.cpos ≤ w.cache.length) :
    GenK.wrapPeek (some (Kernels.bytesInts (w.raw.take (n - (bioRead w.cache w.cpos n).length)))) (n : Int) (Kernels.bioOf w) =
      .ok (some (Kernels.bytesInts (w.read n).1),
        Kernels.bioOf { (w.read n).2 with cpos := (w.read n).2.cpos - (w.read n).1.length }) :=
  Kernels.wrapPeek_kernel w n hc

/-- the `markedPosition` setter: the model's `setMark` step with the buffer size the source uses (8192) - the step the
    recorded finding S4 is about (`wrapper_renumber_witness`) -/
theorem source_wrapper_mark_is_model (w : Wrapper) :
    GenK.wrapSetMark (w.cpos : Int) (Kernels.bioOf w) (w.mark : Int) =
      .ok (Kernels.bioOf (w.step 8192 .setMark).2, (((w.step 8192 .setMark).2.mark : Nat) : Int)) :=
  Kernels.wrapSetMark_kernel w

/-- non-vacuity: two octets cached, position 1, `read(3)` takes one from the cache and two from the raw stream -/
example : GenK.wrapRead (some [7, 8]) 3 ⟨[5, 6], 1⟩ = .ok (some [6, 7, 8], ⟨[5, 6, 7, 8], 4⟩) := by rfl
example : GenK.wrapPeek (some [7, 8]) 3 ⟨[5, 6], 1⟩ = .ok (some [6, 7, 8], ⟨[5, 6, 7, 8], 1⟩) := by rfl
example : GenK.wrapRead none 3 ⟨[5, 6], 2⟩ = .ok (none, ⟨[5, 6], 2⟩) := by rfl

/-- every substrate class the property names is routed by `asSeekableStream` to one of the modelled
    kinds (a BytesIO = K1, the object itself = a seekable stream K3, CachingStreamWrapper = K4) or
    refused with UnsupportedSubstrateError — never anything else, never a non-library exception -/
theorem asSeekable_total :
    Generated.substrateRouting.all (fun r => r.2 ∈
      ["BytesIO", "same", "CachingStreamWrapper", "UnsupportedSubstrateError"]) = true ∧
    ("bytes", "BytesIO") ∈ Generated.substrateRouting ∧
    ("OctetString", "BytesIO") ∈ Generated.substrateRouting ∧
    ("Any", "BytesIO") ∈ Generated.substrateRouting ∧
    ("file rb", "same") ∈ Generated.substrateRouting ∧
    ("gzip", "same") ∈ Generated.substrateRouting ∧
    ("non-seekable RawIOBase", "CachingStreamWrapper") ∈ Generated.substrateRouting ∧
    ("str", "UnsupportedSubstrateError") ∈ Generated.substrateRouting := by decide +kernel

/-- the exception raised for unsupported substrates is a library error -/
theorem unsupported_is_library_error :
    ("UnsupportedSubstrateError", "PyAsn1Error") ∈ Generated.errorSubclass := by decide +kernel

/-! ### S4 on the model: a definite-length container across a cache drop -/

/-- with a 4-octet buffer, SEQUENCE { INTEGER 5, INTEGER 7 } (`30 06 02 01 05 02 01 07`): the second
    component starts 5 octets into the cache, the mark set there drops and renumbers, and the
    container's `tell() - original_position < length` loop runs past its end into EndOfStreamError;
    on a seekable stream the element decodes -/
theorem s4_model_witness :
    (run .wrapped 4 [0x30, 0x06, 0x02, 0x01, 0x05, 0x02, 0x01, 0x07] true (streamP {} 8) {}).summary =
      (.err .eos, 3, []) ∧
    (run .seekable 4 [0x30, 0x06, 0x02, 0x01, 0x05, 0x02, 0x01, 0x07] true (streamP {} 8) {}).summary =
      (.done, 8, [8]) := by decide +kernel

/-- a history with a backward seek, a peek and a mark; outputs computed on both machines -/
example : Wrapper.runOps 8192 { raw := [1, 2, 3, 4, 5, 6] }
      [.read 3, .setMark, .read 2, .seekCur 2, .peek 3, .seekMark, .tell, .readAll] =
    [.bytes [1, 2, 3], .unit, .bytes [4, 5], .nat 3, .bytes [4, 5, 6], .nat 3, .nat 3, .bytes [4, 5, 6]] := by
  decide +kernel
example : Ref.preAll { data := [1, 2, 3, 4, 5, 6] }
      [.read 3, .setMark, .read 2, .seekCur 2, .peek 3, .seekMark, .tell, .readAll] = true ∧
    Ref.noDrop 8192 { data := [1, 2, 3, 4, 5, 6] }
      [.read 3, .setMark, .read 2, .seekCur 2, .peek 3, .seekMark, .tell, .readAll] = true := by decide +kernel
/-- a history across a drop (buffer of 2): octets agree, positions are renumbered -/
example : Wrapper.runOps 2 { raw := [1, 2, 3, 4, 5, 6] } [.read 3, .setMark, .tell, .read 2, .seekCur 1, .read 1] =
      [.bytes [1, 2, 3], .unit, .nat 0, .bytes [4, 5], .nat 1, .bytes [5]] ∧
    Ref.runOps { data := [1, 2, 3, 4, 5, 6] } [.read 3, .setMark, .tell, .read 2, .seekCur 1, .read 1] =
      [.bytes [1, 2, 3], .unit, .nat 3, .bytes [4, 5], .nat 4, .bytes [5]] := by decide +kernel

end Asn1.C11
