/-
  Props.C02 — DER and CER round trip; canonical output accepted by every wider decoder.
-/
import Asn1.Generated
import Proofs.Parse
import Proofs.Codec
import Proofs.Mono
import Proofs.KernelChunk

namespace Asn1.C02

/-- framing: an all-definite tree (what DER produces) is read identically by the framing layer of
    all three decoder configurations of the source — the wider decoders accept the canonical form -/
theorem definite_framing_all_decoders (t : TLV) (tail : Bytes) (hw : t.WF) (hd : t.allDef = true) :
    parseOne Generated.derDecByType.parse (t.ser ++ tail) = .ok (t, tail) ∧
    parseOne Generated.cerDecByType.parse (t.ser ++ tail) = .ok (t, tail) ∧
    parseOne Generated.berDecByType.parse (t.ser ++ tail) = .ok (t, tail) :=
  ⟨parseOne_ser _ t tail hw (Or.inr hd), parseOne_ser _ t tail hw (Or.inr hd),
   parseOne_ser _ t tail hw (Or.inr hd)⟩

/-- framing: any tree (indefinite lengths included, what CER produces) is read identically by the
    CER and BER configurations -/
theorem indefinite_framing_cer_ber (t : TLV) (tail : Bytes) (hw : t.WF) :
    parseOne Generated.cerDecByType.parse (t.ser ++ tail) = .ok (t, tail) ∧
    parseOne Generated.berDecByType.parse (t.ser ++ tail) = .ok (t, tail) :=
  ⟨parseOne_ser _ t tail hw (Or.inl (by decide)), parseOne_ser _ t tail hw (Or.inl (by decide))⟩

/-- the encoder modes the source fixes for the canonical codecs (generated table) -/
theorem canonical_modes :
    Generated.derEnc.fixedDefMode = some true ∧ Generated.derEnc.fixedChunk = some 0 ∧
    Generated.cerEnc.fixedDefMode = some false ∧ Generated.cerEnc.fixedChunk = some 1000 ∧
    Generated.derEnc.boolTrue = 255 ∧ Generated.cerEnc.boolTrue = 255 ∧
    Generated.derEnc.sortSetOf = true ∧ Generated.cerEnc.sortSetOf = true ∧
    Generated.derEncMissingTypeIds = [] ∧ Generated.cerEncMissingTypeIds = [] ∧
    Generated.berEncMissingTypeIds = [] := by
  decide

/-- the DER encoder tables lie in the region of the proof under the DER profile (FF for TRUE, no
    segmented strings), the CER tables under the CER profile (FF for TRUE, segments allowed) -/
theorem der_region (o : EncOpts) : EncRegion Generated.derEnc derProfile (Generated.derEnc.fixedChunk.getD o.maxChunk) :=
  { boolT := by decide, chunk := Or.inl rfl, setOmit := Or.inr rfl }

theorem cer_region (o : EncOpts) : EncRegion Generated.cerEnc cerProfile (Generated.cerEnc.fixedChunk.getD o.maxChunk) :=
  { boolT := by decide, chunk := Or.inr rfl, setOmit := Or.inr rfl }

theorem der_profile_all_decoders :
    Compat derProfile Generated.derDecByType ∧ Compat derProfile Generated.cerDecByType ∧
    Compat derProfile Generated.berDecByType :=
  ⟨.der _, .der _, .der _⟩

theorem cer_profile_cer_ber :
    Compat cerProfile Generated.cerDecByType ∧ Compat cerProfile Generated.berDecByType :=
  ⟨⟨fun h => (by cases h), fun _ => ⟨rfl, by decide⟩⟩, ⟨fun h => (by cases h), fun _ => ⟨rfl, by decide⟩⟩⟩

/-- **DER round trip under the DER, CER and BER decoders** (types without ANY; REAL in its binary form, compared as the number it denotes; values to which
    finding E3 — a present OPTIONAL member with empty contents is left out — does not apply).
    The DER encoding of a value, followed by anything, decodes under each of the three decoders to
    the value (SET OF compared as a multiset: DER sorts it) and leaves exactly what followed. -/
theorem der_roundtrip_partial (o : EncOpts) (hi : o.ifNotEmpty = false) (t : Ty) (v : Val) (b tail : Bytes)
    (hreg : t.reg true Generated.derEnc true = true) (hwf : t.WF = true) (hty : HasType t v = true)
    (hn : noE3 true t v = true) (h : encItem Generated.derEnc o t v = .ok b) :
    (∃ w, decodeOne Generated.derDecByType t (b ++ tail) = .ok (w, tail) ∧ VEq t v w) ∧
    (∃ w, decodeOne Generated.cerDecByType t (b ++ tail) = .ok (w, tail) ∧ VEq t v w) ∧
    (∃ w, decodeOne Generated.berDecByType t (b ++ tail) = .ok (w, tail) ∧ VEq t v w) :=
  ⟨codec_roundtrip Generated.derEnc Generated.derDecByType derProfile o hi (der_region o)
      der_profile_all_decoders.1 (Or.inl rfl) t v b tail hreg hwf hty hn h,
   codec_roundtrip Generated.derEnc Generated.cerDecByType derProfile o hi (der_region o)
      der_profile_all_decoders.2.1 (Or.inl rfl) t v b tail hreg hwf hty hn h,
   codec_roundtrip Generated.derEnc Generated.berDecByType derProfile o hi (der_region o)
      der_profile_all_decoders.2.2 (Or.inl rfl) t v b tail hreg hwf hty hn h⟩

/-- **CER round trip under the CER and BER decoders** (same region; in CER's indefinite mode the
    region also excludes an explicit tag over BOOLEAN/INTEGER/ENUMERATED/NULL/OBJECT IDENTIFIER —
    finding E1).  Strings longer than 1000 octets are written in 1000-octet segments and read back. -/
theorem cer_roundtrip_partial (o : EncOpts) (hi : o.ifNotEmpty = false) (t : Ty) (v : Val) (b tail : Bytes)
    (hreg : t.reg true Generated.cerEnc false = true) (hwf : t.WF = true) (hty : HasType t v = true)
    (hn : noE3 true t v = true) (h : encItem Generated.cerEnc o t v = .ok b) :
    (∃ w, decodeOne Generated.cerDecByType t (b ++ tail) = .ok (w, tail) ∧ VEq t v w) ∧
    (∃ w, decodeOne Generated.berDecByType t (b ++ tail) = .ok (w, tail) ∧ VEq t v w) :=
  ⟨codec_roundtrip Generated.cerEnc Generated.cerDecByType cerProfile o hi (cer_region o)
      cer_profile_cer_ber.1 (Or.inr rfl) t v b tail hreg hwf hty hn h,
   codec_roundtrip Generated.cerEnc Generated.berDecByType cerProfile o hi (cer_region o)
      cer_profile_cer_ber.2 (Or.inr rfl) t v b tail hreg hwf hty hn h⟩

/-- the hypotheses are met by a record with an explicitly tagged member, a DEFAULT member equal to
    its default (left out by DER) and a SET OF -/
example :
    let t : Ty := .seq (.cons .req (.tagged true .context 5 (.prim .boolean))
      (.cons (.dflt (.int 7)) (.prim .integer) (.cons .req (.setOf (.prim (.str 4))) .nil)))
    let v : Val := .seq [.bool true, .int 7, .seqOf [.str [9, 9]]]
    t.reg true Generated.derEnc true = true ∧ t.WF = true ∧ HasType t v = true ∧ noE3 true t v = true ∧
      (encItem Generated.derEnc {} t v).toOption.isSome = true := by
  decide +kernel

/-- the region includes REAL: 12·2³ is written with the odd mantissa 3 and exponent 5 and read back as
    that number -/
example :
    let t : Ty := .seq (.cons .req (.prim .real) (.cons .req (.prim .integer) .nil))
    let v : Val := .seq [.real (.fin 12 2 3), .int 1]
    t.reg true Generated.derEnc true = true ∧ t.WF = true ∧ HasType t v = true ∧ noE3 true t v = true ∧
      (encItem Generated.derEnc {} t v).toOption = some [0x30, 0x08, 0x09, 0x03, 0x80, 0x05, 0x03, 0x02, 0x01, 0x01] := by
  decide +kernel

/-- the decoder tables form a chain: DER is a restriction of CER, CER of BER (generated tables) -/
theorem der_stricter_cer : Generated.derDecByType.Stricter Generated.cerDecByType :=
  { indef := fun h => (by cases h), bool := fun h => (by cases h), bits := fun h => (by cases h),
    strs := fun k h => (by simp [Generated.derDecByType] at h) }

theorem cer_stricter_ber : Generated.cerDecByType.Stricter Generated.berDecByType :=
  { indef := fun _ => rfl, bool := fun h => (by cases h), bits := fun _ => rfl, strs := fun _ h => h }

theorem der_stricter_ber : Generated.derDecByType.Stricter Generated.berDecByType :=
  { indef := fun h => (by cases h), bool := fun h => (by cases h), bits := fun h => (by cases h),
    strs := fun k h => (by simp [Generated.derDecByType] at h) }

/-- **decoders that accept the same octets agree** — for *any* octets and *any* type (no region):
    whatever DER accepts, CER and BER accept with the same value and remainder; whatever CER
    accepts, BER accepts with the same value and remainder.  Hence any two of the three decoders
    that both accept return the same abstract value. -/
theorem accepting_decoders_agree (t : Ty) (bs : Bytes) :
    (∀ r, decodeOne Generated.derDecByType t bs = .ok r → decodeOne Generated.cerDecByType t bs = .ok r) ∧
    (∀ r, decodeOne Generated.derDecByType t bs = .ok r → decodeOne Generated.berDecByType t bs = .ok r) ∧
    (∀ r, decodeOne Generated.cerDecByType t bs = .ok r → decodeOne Generated.berDecByType t bs = .ok r) :=
  ⟨fun r h => decodeOne_mono _ _ der_stricter_cer t bs r h,
   fun r h => decodeOne_mono _ _ der_stricter_ber t bs r h,
   fun r h => decodeOne_mono _ _ cer_stricter_ber t bs r h⟩

theorem two_accepting_decoders_same_value (t : Ty) (bs : Bytes) (r1 r2 : Val × Bytes)
    (h1 : decodeOne Generated.derDecByType t bs = .ok r1 ∨ decodeOne Generated.cerDecByType t bs = .ok r1)
    (h2 : decodeOne Generated.berDecByType t bs = .ok r2) : r1 = r2 := by
  rcases h1 with h1 | h1
  · have := (accepting_decoders_agree t bs).2.1 r1 h1
    rw [h2] at this; exact (Except.ok.inj this).symm
  · have := (accepting_decoders_agree t bs).2.2 r1 h1
    rw [h2] at this; exact (Except.ok.inj this).symm

/-! ### at the source level: the segmentation loop, translated from /repo on this run -/

/-- `OctetStringEncoder.encodeValue` (ber/encoder.py; the loop is translated by gen/py2lean.py into `GenK.octetChunks`,
    its `encodeFun` callback a function parameter): whatever the callback, no chunk size or a string that fits gives the
    octets in primitive form, anything longer the callback's answers for the consecutive `maxChunkSize`-octet pieces, in
    order, in constructed form -/
theorem source_segmentation (f : Py.Tup → Py.M Py.Tup) (bs : Bytes) (n : Nat) :
    GenK.octetChunks f (Kernels.bytesInts bs) (n : Int) =
      if n = 0 ∨ bs.length ≤ n then .ok (Kernels.bytesInts bs, false, true)
      else (Kernels.concatM f ((chunkBytes n bs.length bs).map Kernels.bytesInts)).map (fun r => (r, true, true)) :=
  Kernels.octetChunks_kernel f bs n

/-- with the translated header loop as the callback for one piece, the translated segmentation loop writes what the
    encoder model - about which the round-trip theorems above are stated - writes for an octet or character string of
    any length under any chunk size (CER: 1000) and any mode -/
theorem source_segmentation_is_model (cfg : EncCfg) (o : EncOpts) (k : Nat) (bs : Bytes) :
    GenK.octetChunks (Kernels.chunkFun true o.ifNotEmpty o.defMode) (Kernels.bytesInts bs) (o.maxChunk : Int) =
      Kernels.liftEnc (encValue cfg o (.prim (.str k)) (.str bs)) :=
  Kernels.octetChunks_is_model cfg o k bs

/-- non-vacuity: five octets under a chunk size of two are three OCTET STRING pieces `04 02 .. ..`, `04 02 .. ..`,
    `04 01 ..` in constructed form -/
example : GenK.octetChunks (Kernels.chunkFun true false false) [1, 2, 3, 4, 5] 2 =
    .ok ([4, 2, 1, 2, 4, 2, 3, 4, 4, 1, 5], true, true) := by rfl

end Asn1.C02
