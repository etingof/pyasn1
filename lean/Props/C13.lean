/-
  Props.C13 — tags on the wire are exactly the type's tags.
-/
import Asn1.Generated
import Proofs.TagLen
import Proofs.RoundTrip
import Proofs.TagReject
import Proofs.Kernels
import Proofs.KernelWrap
import Props.C01

namespace Asn1.C13

/-- identifier octets decode back to the tag they were made from — every class, both formats,
    every number in ℕ (short and multi-octet form), any bytes following. -/
theorem tag_roundtrip (t : Tag) (isConstructed : Bool) (rest : Bytes) :
    decodeTag (encodeTag t isConstructed ++ rest)
      = .ok (⟨t.cls, t.constructed || isConstructed, t.num⟩, rest) :=
  decodeTag_encodeTag t isConstructed rest

/-- **the identifier octets the source writes** (`AbstractItemEncoder.encodeTag`, translated from /repo on
    this run into `GenK.encodeTag`) **decode back to exactly the tag**: class, number and the
    constructed bit `tagFormat | isConstructed` — every class, every number in ℕ -/
theorem source_identifier_roundtrip (t : Tag) (isConstructed : Bool) (rest : Bytes) :
    ∃ b : Bytes, GenK.encodeTag (Kernels.tagTriple t) isConstructed = .ok (Kernels.bytesInts b) ∧
      decodeTag (b ++ rest) = .ok (⟨t.cls, t.constructed || isConstructed, t.num⟩, rest) :=
  ⟨encodeTag t isConstructed, Kernels.encodeTag_kernel t isConstructed, decodeTag_encodeTag t isConstructed rest⟩

/-- **one header per tag, at the source level**: the loop of `AbstractItemEncoder.encode` over `tagSet.superTags`
    (ber/encoder.py; translated from /repo on this run into `GenK.wrapTags`, which calls the translated `encodeTag` and
    `encodeLength`; `encodeValue`'s answer is its argument) is the model's `wrapTags` - for every non-empty tag set,
    substrate, `defMode`, `supportIndefLenMode` and `ifNotEmpty`.  Everything proved about `wrapTags`
    (`wire_tags_are_type_tags` below, the round trips of C01/C02, and finding E1, which lives in this loop) is thereby a
    statement about the loop in the source. -/
theorem source_header_loop_is_model (indefOk ifNotEmpty defMode isCons isOct : Bool) (t : Tag) (ts : List Tag) (sub : Bytes) :
    GenK.wrapTags indefOk ifNotEmpty ((t :: ts).map Kernels.tagTriple) defMode (Kernels.bytesInts sub) isCons isOct =
      Kernels.liftLen (if sub.isEmpty && isCons && ifNotEmpty then .ok []
                       else wrapTags indefOk defMode isCons true (t :: ts) sub) :=
  Kernels.wrapTags_kernel indefOk ifNotEmpty defMode isCons isOct t ts sub

/-- INTEGER 5 under [0] EXPLICIT, definite mode: `a0 03 02 01 05`; and finding E1 as the source has it: indefinite mode
    over an encoder without indefinite lengths writes a definite length and still appends end-of-octets -/
example : GenK.wrapTags false false [[0, 0, 2], [128, 32, 0]] true [5] false false = .ok [160, 3, 2, 1, 5] := by rfl
example : GenK.wrapTags false false [[0, 0, 2], [128, 32, 0]] false [5] false false = .ok [160, 3, 2, 1, 5, 0, 0] := by rfl

/-- explicit tagging refuses the UNIVERSAL class -/
theorem explicit_refuses_universal (ts : TagSet) (num : Nat) :
    ts.tagExplicitly .universal num = none := by
  simp [TagSet.tagExplicitly]

/-- explicit tagging adds exactly one constructed tag outside all existing ones -/
theorem explicit_appends_constructed (ts : TagSet) (cls : TagClass) (num : Nat)
    (h : cls ≠ .universal) :
    ts.tagExplicitly cls num = some (ts ++ [⟨cls, true, num⟩]) := by
  simp [TagSet.tagExplicitly, h]

/-- implicit tagging replaces only the outermost tag and keeps its primitive/constructed form -/
theorem implicit_replaces_outermost (inner : TagSet) (last : Tag) (cls : TagClass) (fmt : Bool)
    (num : Nat) :
    TagSet.tagImplicitly (inner ++ [last]) cls fmt num = inner ++ [⟨cls, last.constructed, num⟩] :=
  tagImplicitly_concat inner last cls fmt num

/-- the model's universal tags are the ones the source declares (generated table) -/
theorem universal_tags_match_source :
    Generated.univTags = [("boolean", 0, 0, 1), ("integer", 0, 0, 2), ("bitString", 0, 0, 3),
      ("null", 0, 0, 5), ("oid", 0, 0, 6), ("real", 0, 0, 9), ("enumerated", 0, 0, 10)]
    ∧ Generated.consTags = [("seq", 0, 32, 16), ("seqOf", 0, 32, 16), ("set", 0, 32, 17), ("setOf", 0, 32, 17)]
    ∧ Generated.choiceTagLen = 0 ∧ Generated.anyTagLen = 0
    ∧ Generated.tagClassBits = [0, 64, 128, 192] ∧ Generated.tagFormatConstructed = 32 := by
  decide +kernel

/-- every string-like type keeps OCTET STRING as base tag and its own universal number on the wire -/
theorem string_tags_match_source :
    Generated.strTags.all (fun r => r.2.1 == 0 && r.2.2.1 == 0 && r.2.2.2.1 == r.1 && r.2.2.2.2 == 4)
      = true := by
  decide

/-- non-vacuity: a concrete multi-octet tag -/
example : decodeTag (encodeTag ⟨.priv, false, 16384⟩ true ++ [7]) = .ok (⟨.priv, true, 16384⟩, [7]) :=
  tag_roundtrip _ _ _


/-- **the tags on the wire are the type's tags** (region of `Asn1.Ty.reg`: no ANY/REAL; finding E1
    excluded in indefinite mode).  Whatever the BER encoder returns for a value of `t`, in any mode,
    is one well-formed element `x` such that
      * the framing layer reads `x` back from the octets (so `x`'s identifiers are what is on the wire),
      * walking from the outside in, `x` carries `t`'s tags in class and number, every wrapper having
        the constructed bit and exactly one element inside, the innermost element being constructed
        exactly when the contents are,
      * decoding with `t` accepts it and gives the value back,
      * decoding with any type `t'` of the same tagging depth whose tags differ in class or number
        at any level is rejected. -/
theorem wire_tags_are_type_tags (defMode : Bool) (maxChunk : Nat) (t : Ty) (v : Val) (b tail : Bytes)
    (hreg : t.reg false Generated.berEnc defMode = true) (hwf : t.WF = true) (hty : HasType t v = true)
    (h : encItem Generated.berEnc { defMode := defMode, maxChunk := maxChunk } t v = .ok b) :
    ∃ x : TLV, parseOne Generated.berDecByType.parse (b ++ tail) = .ok (x, tail) ∧
      Carries t.tags.reverse x ∧
      decodeOne Generated.berDecByType t (b ++ tail) = .ok (v, tail) ∧
      ∀ t' : Ty, isAnyBase t' = false → t.tags.length = t'.tags.length →
        tagsDiffer t.tags.reverse t'.tags.reverse = true →
        decodeOne Generated.berDecByType t' (b ++ tail) = .error .malformed := by
  obtain ⟨x, rfl, hxw, _, _, hxd⟩ := encode_good Generated.berEnc Generated.berDecByType _
    (C01.ber_region { defMode := defMode, maxChunk := maxChunk } rfl) t v b hreg hwf hty h
  have hna := reg_not_any false Generated.berEnc defMode t hreg
  refine ⟨x, C01.framing_roundtrip x tail hxw, decTy_carries _ t x v hna hxw hxd, ?_, ?_⟩
  · rw [decodeOne_ser _ t x tail hxw (Or.inl rfl), hxd]; rfl
  · intro t' ha' hl hd
    rw [decodeOne_ser _ t' x tail hxw (Or.inl rfl), decTy_reject _ t t' x v hna ha' hl hd hxd]; rfl

/-- the hypotheses of the rejection clause are met: `[1] EXPLICIT [APPLICATION 31] IMPLICIT INTEGER`
    against the same stack with 30 in place of 31 -/
example :
    let t : Ty := .tagged true .context 1 (.tagged false .application 31 (.prim .integer))
    let t' : Ty := .tagged true .context 1 (.tagged false .application 30 (.prim .integer))
    t.reg false Generated.berEnc true = true ∧ t.WF = true ∧ isAnyBase t' = false ∧
      t.tags.length = t'.tags.length ∧ tagsDiffer t.tags.reverse t'.tags.reverse = true := by
  decide

end Asn1.C13
