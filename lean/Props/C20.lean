/-
  Props.C20 — time values convert to and from datetime without changing the instant.
  The lemmas are in Proofs/TimeDigits, Proofs/TimeRoundtrip, Proofs/TimeCanon, Proofs/TimeInstant.
  The model (Asn1/Time.lean) mirrors /repo after the three C20 `fix:` commits.
-/
import Proofs.TimeRoundtrip
import Proofs.TimeCanon
import Proofs.TimeInstant
import Asn1.Generated
import Proofs.KernelTime

namespace Asn1.C20
open Asn1.Time

/-- GeneralizedTime: every datetime with millisecond precision and a whole-minute offset of less than a day
    (what `datetime` can hold) is written by `fromDateTime` and read back by `asDateTime` with the same
    fields — hence the same instant — and the same offset; a naive datetime comes back as UTC. -/
theorem gt_roundtrip (dt : DT) (v : ValidDT dt) (hms : dt.micro % 1000 = 0) :
    asDateTime gt (fromDateTime gt dt) = .ok { dt with off := some (dt.off.getD 0) } :=
  asDateTime_fromDateTime_gt v hms

/-- UTCTime: second precision, and the year inside the window 1969..2068 in which strptime's `%y`
    (hence pyasn1) places two-digit years. -/
theorem utc_roundtrip (dt : DT) (v : ValidDT dt) (hy : 1969 ≤ dt.year ∧ dt.year ≤ 2068) (hs : dt.micro = 0) :
    asDateTime utc (fromDateTime utc dt) = .ok { dt with off := some (dt.off.getD 0) } :=
  asDateTime_fromDateTime_utc v hy hs

/-- whatever the CER/DER encoders emit for a time value with at most one decimal point ends in `Z`,
    contains no comma and no offset sign, respects the type's length window, and its fraction — the text
    between the decimal point and the `Z` — is non-empty (no dangling point) and free of zeros, in
    particular of trailing zeros. -/
theorem canon_shape (k : Kind) (s s' : List Char) (h : canonTime k s = .ok s') (h1 : s.count '.' ≤ 1) :
    s'.getLast? = some 'Z' ∧ ',' ∉ s' ∧ '+' ∉ s' ∧ '-' ∉ s'
      ∧ (∀ pre frac, s' = pre ++ '.' :: (frac ++ ['Z']) → frac ≠ [] ∧ '0' ∉ frac ∧ frac.getLast? ≠ some '0')
      ∧ k.minLength < s'.length ∧ s'.length < k.maxLength := by
  obtain ⟨a, b, c, d, e⟩ := canonTime_shape h h1
  obtain ⟨_, _, _, _, _, l1, l2⟩ := canonTime_ok h
  refine ⟨a, b, c, d, ?_, l1, l2⟩
  intro pre frac hs
  obtain ⟨n, z⟩ := e pre frac hs
  exact ⟨n, z, fun hl => z (List.mem_of_getLast? hl)⟩

/-- values without a decimal point (every UTCTime, GeneralizedTime without fraction) are emitted unchanged,
    so they trivially denote the same instant -/
theorem canon_identity_without_fraction (k : Kind) (s s' : List Char) (h : canonTime k s = .ok s')
    (hd : '.' ∉ s) : s' = s := by
  obtain ⟨_, _, _, _, e, _, _⟩ := canonTime_ok h
  rw [if_neg hd] at e; exact e

/-- PARTIAL (known finding `canon-inner-zero-deleted`, pinned by
    tests/codec/cer/test_encoder.py::GeneralizedTimeEncoderTestCase::testWithSubsecondsWithZeros).
    Full statement demanded by C20:
      ∀ main frac, AllDig main → AllDig frac → frac ≠ [] →
        canonTime gt (main ++ '.' :: (frac ++ ['Z'])) = .ok s' → instant gt s' = instant gt (main ++ '.' :: (frac ++ ['Z']))
    It is false where the fraction has a `0` before a non-zero digit (see `canon_inner_zero_counterexample`).
    Proved here for exactly the complement: the fraction is a zero-free digit string `f` followed by `n` zeros. -/
theorem canon_instant_partial (main f : List Char) (n : Nat) (s' : List Char)
    (hm : AllDig main) (hf : AllDig f) (h0 : '0' ∉ f) (hne : f ≠ [] ∨ n ≠ 0)
    (h : canonTime gt (main ++ '.' :: (f ++ List.replicate n '0' ++ ['Z'])) = .ok s') :
    instant gt s' = instant gt (main ++ '.' :: (f ++ List.replicate n '0' ++ ['Z'])) :=
  canonTime_instant rfl hm hf h0 hne h

/-- what the code does inside the finding's region, on the witness: the interior zeros go, the instant moves -/
theorem canon_inner_zero_counterexample :
    canonTime gt "20170801120112.10203Z".toList = .ok "20170801120112.123Z".toList
      ∧ instant gt "20170801120112.123Z".toList ≠ instant gt "20170801120112.10203Z".toList := by
  -- the string literals become lists once, before the evaluation
  dsimp only [String.reduceToList]
  decide +kernel

/-- a value that X.680 reads as local time or with a non-zero UTC offset is refused with a library error
    (never emitted, never another exception) -/
theorem canon_refuses_nonutc (k : Kind) (s : List Char) (i : Instant)
    (h : instant k s = some i) (ho : i.off ≠ some 0) : canonTime k s = .error .liberr :=
  canonTime_refuses_nonutc h ho

/-- the CER and the DER encoder tables (generated from the source on every run) both serve the two time
    types with the classes whose `encodeValue` is `canonTime`: one model covers both codecs -/
theorem time_encoder_rows_match_source :
    Generated.cerEncRows.lookup "GeneralizedTime" = some "cer.GeneralizedTimeEncoder"
    ∧ Generated.derEncRows.lookup "GeneralizedTime" = some "cer.GeneralizedTimeEncoder"
    ∧ Generated.cerEncRows.lookup "UTCTime" = some "cer.UTCTimeEncoder"
    ∧ Generated.derEncRows.lookup "UTCTime" = some "cer.UTCTimeEncoder" := by decide +kernel

/-- any offset sign is refused, also `+0000` -/
theorem canon_refuses_sign (k : Kind) (s : List Char) (h : '+' ∈ s ∨ '-' ∈ s) :
    canonTime k s = .error .liberr :=
  canonTime_refuses_sign k h

/-- UTCTime: the text `fromDateTime` writes, read per X.680 §47 (two-digit year in the strptime window),
    denotes the datetime's own instant with its own offset. -/
theorem utc_text_instant (dt : DT) (v : ValidDT dt) (hy : 1969 ≤ dt.year ∧ dt.year ≤ 2068) (hs : dt.micro = 0) :
    instant utc (fromDateTime utc dt) = some ({ dt with off := some (dt.off.getD 0) } : DT).instant :=
  instant_fromDateTime_utc v hy hs

/-- PARTIAL (known finding `from-fraction-unpadded`, pinned by
    tests/type/test_useful.py::GeneralizedTimeTestCase::testFromDateTime).
    Full statement: ∀ dt, ValidDT dt → dt.micro % 1000 = 0 →
        instant gt (fromDateTime gt dt) = some { dt with off := some (dt.off.getD 0) }.instant
    It is false for 0 < ms < 100 (`'.%d' % ms` is not zero-padded; see `from_fraction_counterexample`); the
    library's own `asDateTime` undoes the error, so `gt_roundtrip` is unaffected. Proved for the complement. -/
theorem from_instant_partial (dt : DT) (v : ValidDT dt) (hms : dt.micro % 1000 = 0)
    (hg : dt.micro = 0 ∨ 100000 ≤ dt.micro) :
    instant gt (fromDateTime gt dt) = some ({ dt with off := some (dt.off.getD 0) } : DT).instant :=
  instant_fromDateTime_gt v hms hg

/-- inside the finding's region: 5 ms is written `.5`, which X.680 reads as 500 ms -/
theorem from_fraction_counterexample :
    fromDateTime gt ⟨2017, 7, 11, 0, 1, 2, 5000, none⟩ = "20170711000102.5Z".toList
      ∧ instant gt "20170711000102.5Z".toList = some ⟨2017, 7, 11, 62500000, 0, some 0⟩
      ∧ (⟨2017, 7, 11, 0, 1, 2, 5000, some 0⟩ : DT).instant = ⟨2017, 7, 11, 62005000, 0, some 0⟩ := by
  decide +kernel

/-- known finding `as-fraction-integer-ms` (pinned by tests/type/test_useful.py testToDateTime2..6) on its
    witness: `asDateTime` reads `.12` as 12 ms where X.680 reads 120 ms; four digits leak a ValueError -/
theorem as_fraction_counterexample :
    asDateTime gt "20170711000102.12Z".toList = .ok ⟨2017, 7, 11, 0, 1, 2, 12000, some 0⟩
      ∧ instant gt "20170711000102.12Z".toList = some ⟨2017, 7, 11, 62120000, 0, some 0⟩
      ∧ asDateTime gt "20170711000102.1234Z".toList = .error (.leak "ValueError") := by
  dsimp only [String.reduceToList]
  decide +kernel

/-! ### at the source level: the canonicaliser translated from /repo on this run -/

/-- the model's two kinds carry the class attributes of the source (generated table) -/
theorem time_kinds_match_source :
    Generated.timeKinds =
      [("gt", gt.yearsDigits, gt.hasSubsecond, gt.optionalMinutes, gt.shortTZ, gt.minLength, gt.maxLength),
       ("utc", utc.yearsDigits, utc.hasSubsecond, utc.optionalMinutes, utc.shortTZ, utc.minLength, utc.maxLength)] := by
  rfl

/-- **the body of `TimeEncoderMixIn.encodeValue`** (cer/encoder.py, between `asNumbers()` and the hand-over to the string
    encoder; translated by gen/py2lean.py into `GenK.timeCanon`) **computes the model's `canonTime`**, for every text and
    both time types - so `canon_shape`, `canon_instant_partial`, `canon_refuses_nonutc`, … are statements about what the
    source does now -/
theorem source_canonicaliser_is_model (k : Kind) (s : List Char) :
    GenK.timeCanon (k.maxLength : Int) (k.minLength : Int) (Kernels.I s) = Kernels.liftTime (canonTime k s) :=
  Kernels.timeCanon_kernel k s

/-- whatever text the source's canonicaliser lets through is the model's answer, hence has the canonical shape -/
theorem source_canon_accepts_only_model_output (k : Kind) (s : List Char) (r : Py.Tup)
    (h : GenK.timeCanon (k.maxLength : Int) (k.minLength : Int) (Kernels.I s) = .ok r) :
    ∃ s', canonTime k s = .ok s' ∧ r = Kernels.I s' := by
  rw [Kernels.timeCanon_kernel] at h
  exact Kernels.liftTime_eq_ok h

example : GenK.timeCanon 20 12 (Kernels.I "20170801120112.1020Z".toList) = .ok (Kernels.I "20170801120112.12Z".toList) := by
  dsimp only [String.reduceToList]; rfl

/-! ### the hypotheses above can be met -/

def sample : DT := ⟨2017, 7, 11, 0, 1, 2, 3000, some (-90)⟩

theorem sample_valid : ValidDT sample :=
  ⟨by decide, by decide, by decide, by decide, by decide, by decide, by decide,
   by intro o h; cases h; decide⟩

example : asDateTime gt (fromDateTime gt sample) = .ok sample := gt_roundtrip sample sample_valid (by decide)
example : asDateTime gt "20170711000102.3-0130".toList = .ok sample := by decide +kernel
example : asDateTime utc (fromDateTime utc { sample with micro := 0, off := none })
    = .ok { sample with micro := 0, off := some 0 } :=
  utc_roundtrip _ { sample_valid with micro := by decide, off := by intro o h; cases h } (by decide) rfl
example : asDateTime utc "170711000102+0530".toList = .ok ⟨2017, 7, 11, 0, 1, 2, 0, some 330⟩ := by decide +kernel

example : canonTime gt "201708011201.10000Z".toList = .ok "201708011201.1Z".toList := by decide +kernel
example : ("201708011201.10000Z".toList).count '.' ≤ 1 := by decide +kernel
example : canonTime gt "20170801120112.000Z".toList = .ok "20170801120112Z".toList := by decide +kernel
example : canonTime utc "9908011201Z".toList = .ok "9908011201Z".toList := by decide +kernel
/-- `canon_instant_partial` instantiated: main = 201708011201, f = 1, n = 4 -/
example : instant gt "201708011201.1Z".toList = instant gt "201708011201.10000Z".toList := by
  dsimp only [String.reduceToList]
  exact canon_instant_partial ['2', '0', '1', '7', '0', '8', '0', '1', '1', '2', '0', '1'] ['1'] 4 _ (by decide)
    (by decide) (by decide) (Or.inl (by decide)) (by decide +kernel)
example : instant gt "2017080112.5+0130".toList = some ⟨2017, 8, 1, 45000000000, 0, some 90⟩ := by decide +kernel
example : canonTime gt "2017080112.5+0130".toList = .error .liberr :=
  canon_refuses_nonutc gt _ ⟨2017, 8, 1, 45000000000, 0, some 90⟩ (by decide +kernel) (by decide)
example : instant gt "20170801120112".toList = some ⟨2017, 8, 1, 43272000000, 0, none⟩ := by decide +kernel
example : canonTime gt "20170801120112".toList = .error .liberr :=
  canon_refuses_nonutc gt _ _ (by decide +kernel : instant gt "20170801120112".toList = some ⟨2017, 8, 1, 43272000000, 0, none⟩)
    (by decide)

example : instant gt (fromDateTime gt { sample with micro := 120000 })
    = some (⟨2017, 7, 11, 0, 1, 2, 120000, some (-90)⟩ : DT).instant :=
  from_instant_partial _ { sample_valid with micro := by decide } (by decide) (Or.inr (by decide))
example : instant utc (fromDateTime utc { sample with micro := 0 })
    = some (⟨2017, 7, 11, 0, 1, 2, 0, some (-90)⟩ : DT).instant :=
  utc_text_instant _ { sample_valid with micro := by decide } (by decide) rfl

end Asn1.C20
