/-
  Props.C10 — whatever a decoder accepts is a well-formed, re-encodable value of the type.
-/
import Asn1.Generated
import Proofs.Sound
import Proofs.Codec
import Proofs.KernelGate
import Props.C09

namespace Asn1.C10

/-- **decode soundness**: for every decoder configuration, every well-formed guiding type and
    EVERY input (valid or damaged), a returned value is a complete value of the type: every
    mandatory component present, every component of its declared type (by induction on the type,
    unbounded nesting). -/
theorem decode_sound (cfg : DecCfg) (ty : Ty) (bs : Bytes) (v : Val) (rest : Bytes)
    (hw : ty.WF = true) (h : decodeOne cfg ty bs = .ok (v, rest)) : HasType ty v = true := by
  obtain ⟨x, _, hx⟩ := decodeOne_ok.mp h
  exact sound_ty cfg ty x v hw hx

/-- the same for the three configurations the source defines -/
theorem decode_sound_ber_cer_der (ty : Ty) (bs : Bytes) (v : Val) (rest : Bytes) (hw : ty.WF = true) :
    (decodeOne Generated.berDecByType ty bs = .ok (v, rest) → HasType ty v = true) ∧
    (decodeOne Generated.cerDecByType ty bs = .ok (v, rest) → HasType ty v = true) ∧
    (decodeOne Generated.derDecByType ty bs = .ok (v, rest) → HasType ty v = true) :=
  ⟨decode_sound _ ty bs v rest hw, decode_sound _ ty bs v rest hw, decode_sound _ ty bs v rest hw⟩

/-- a complete value is never the placeholder -/
theorem accepted_is_value (cfg : DecCfg) (ty : Ty) (bs : Bytes) (v : Val) (rest : Bytes)
    (hw : ty.WF = true) (h : decodeOne cfg ty bs = .ok (v, rest)) : v ≠ .absent := by
  intro he
  have := decode_sound cfg ty bs v rest hw h
  rw [he, HasType_ne_absent] at this
  exact Bool.noConfusion this

/-- **the accepted value re-encodes and the re-encoding is a fixpoint** (BER, any mode; region: no
    ANY, finding E1 in indefinite mode).  Whatever the BER decoder returned for *any* input — valid,
    damaged, in any form — is a complete value (`decode_sound`); if the library's encoder accepts it
    (it refuses only values whose lengths cannot be written), decoding that re-encoding gives the same
    abstract value again and nothing is left over. -/
theorem accepted_reencodes_to_fixpoint (ty : Ty) (bs : Bytes) (v : Val) (rest : Bytes)
    (defMode : Bool) (maxChunk : Nat) (b : Bytes)
    (hw : ty.WF = true) (hreg : ty.reg true Generated.berEnc defMode = true)
    (h : decodeOne Generated.berDecByType ty bs = .ok (v, rest))
    (he : encItem Generated.berEnc { defMode := defMode, maxChunk := maxChunk } ty v = .ok b) :
    ∃ w, decodeOne Generated.berDecByType ty b = .ok (w, []) ∧ VEq ty v w := by
  have hty := decode_sound _ ty bs v rest hw h
  have hR : EncRegion Generated.berEnc berProfile
      (Generated.berEnc.fixedChunk.getD ({ defMode := defMode, maxChunk := maxChunk } : EncOpts).maxChunk) :=
    { boolT := by decide, chunk := Or.inr rfl, setOmit := Or.inl rfl }
  -- with seqOmitEmpty = false no member is ever left out for being empty
  have hn : noE3 Generated.berEnc.seqOmitEmpty ty v = true := noE3_false ty v
  have := codec_roundtrip Generated.berEnc Generated.berDecByType berProfile
    { defMode := defMode, maxChunk := maxChunk } rfl hR C09.ber_compat (Or.inr rfl) ty v b [] hreg hw hty hn he
  simpa using this

/-- non-vacuity: a nested well-formed type with OPTIONAL, DEFAULT, CHOICE and tags -/
example : (Ty.seq (.cons .req (.prim .integer)
            (.cons .opt (.tagged true .context 0 (.prim .boolean))
            (.cons (.dflt (.int 5)) (.tagged false .context 1 (.prim .integer))
            (.cons .req (.choice (.cons .req (.prim .null) (.cons .req (.prim (.str 4)) .nil))) .nil))))).WF = true := by
  decide

/-- **a record with a mandatory member missing does not get out of the decoder, at the source level**: the statement
    `if not namedTypes.requiredComponents.issubset(seenIndices): raise ...` of `ConstructedPayloadDecoderBase.valueDecoder`
    and of `indefLenValueDecoder` (translated into `GenK.requiredSeen` / `GenK.requiredSeenIndef`) raises the library's error
    whenever some mandatory position `i` is not among the positions seen - whatever else was seen, in whatever order -/
theorem source_missing_mandatory_is_refused (req seen : List Nat) (i : Nat) (hi : i ∈ req) (hn : i ∉ seen) :
    GenK.requiredSeen (Kernels.natInts req) (Kernels.natInts seen) = .error (.lib "PyAsn1Error") ∧
      GenK.requiredSeenIndef (Kernels.natInts req) (Kernels.natInts seen) = .error (.lib "PyAsn1Error") := by
  have hall : req.all (fun j => seen.contains j) = false := by
    rw [Bool.eq_false_iff]
    intro h
    rw [List.all_eq_true] at h
    have := h i hi
    simp only [List.contains_iff_mem] at this
    exact hn (by simpa using this)
  rw [Kernels.requiredSeen_kernel, Kernels.requiredSeenIndef_kernel, hall]
  exact ⟨rfl, rfl⟩

/-- and conversely the gate lets a complete record through: every mandatory position seen - accepted -/
theorem source_complete_record_passes (req seen : List Nat) (h : ∀ i ∈ req, i ∈ seen) :
    GenK.requiredSeen (Kernels.natInts req) (Kernels.natInts seen) = .ok 0 ∧
      GenK.requiredSeenIndef (Kernels.natInts req) (Kernels.natInts seen) = .ok 0 := by
  have hall : req.all (fun j => seen.contains j) = true := by
    rw [List.all_eq_true]
    intro j hj
    simpa using h j hj
  rw [Kernels.requiredSeen_kernel, Kernels.requiredSeenIndef_kernel, hall]
  exact ⟨rfl, rfl⟩

/-- non-vacuity: mandatory positions 0 and 2 of a three-member SET; members arriving as 2, 1 - position 0 missing -/
example : GenK.requiredSeen [0, 2] [2, 1] = .error (.lib "PyAsn1Error") := by rfl
example : GenK.requiredSeen [0, 2] [2, 1, 0] = .ok 0 := by rfl

end Asn1.C10
