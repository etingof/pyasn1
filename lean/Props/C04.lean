/-
  Props.C04 — DER/CER bytes depend only on the abstract value, not on how it was built.

  `encodeObj` (`Asn1.Container`) mirrors the encoders' value-object personality READING THE OBJECT
  (placeholders, noValue holes, lazily padded lists); `encItem` is the codec model on abstract
  content.  The theorems hold for every encoder configuration, in particular for the generated
  DER and CER ones (`Generated.derEnc`, `Generated.cerEnc`).
-/
import Asn1.Container
import Proofs.ContainerEnc
import Proofs.Canonical
import Proofs.Placed
import Props.C02
import Proofs.KernelSort

namespace Asn1.C04
open Asn1.Container

/-- **the object's encoding factors through its abstract content** — SEQUENCE OF / SET OF -/
theorem encodeObj_factors_seqOf (cfg : EncCfg) (typed isSet : Bool) (l : List (Option Int))
    (hinv : ListSpec.Inv typed (some l)) (zs : List Int) (h : ListSpec.allSet l = some zs) :
    SeqOf.encodeObj cfg typed isSet (ListSpec.rep typed (some l)) =
      encItem cfg {} (SeqOf.ty isSet) (.seqOf (zs.map .int)) :=
  seqOf_encodeObj_factors cfg typed isSet l zs h

/-- … SEQUENCE / SET with declared fields (required / OPTIONAL / DEFAULT), whatever the slots hold
    besides the values: placeholders left by reads, noValue holes, an unpadded list -/
theorem encodeObj_factors_seq (cfg : EncCfg) (isSet : Bool) (fields : List FK) (hN : fields.length ≠ 0)
    (st : RecSt) (v : Val) (h : Rec.abs fields st = some v) :
    Rec.encodeObj cfg isSet fields st = encItem cfg {} (Rec.ty isSet fields st) v :=
  rec_encodeObj_factors cfg isSet fields hN st v h

/-- **C04, CHOICE**: the object's encoding is the codec model's encoding of its abstract content -/
theorem encodeObj_factors_choice (cfg : EncCfg) (n : Nat) (st : ChoiceSt) (v : Val)
    (h : Choice.abs st = some v) :
    Choice.encodeObj cfg n st = encItem cfg {} (Choice.ty n) v :=
  choice_encodeObj_factors cfg n st v h

/-- **equal abstract content ⇒ identical DER bytes and identical CER bytes**, however the two
    records were produced (any order of assignment, reads in between, placeholders, cloning) -/
theorem equal_abs_equal_bytes (isSet : Bool) (fields : List FK) (hN : fields.length ≠ 0)
    (st₁ st₂ : RecSt) (v : Val) (h₁ : Rec.abs fields st₁ = some v) (h₂ : Rec.abs fields st₂ = some v) :
    Rec.encodeObj Generated.derEnc isSet fields st₁ = Rec.encodeObj Generated.derEnc isSet fields st₂ ∧
    Rec.encodeObj Generated.cerEnc isSet fields st₁ = Rec.encodeObj Generated.cerEnc isSet fields st₂ :=
  ⟨rec_encodeObj_congr _ isSet fields hN st₁ st₂ v h₁ h₂, rec_encodeObj_congr _ isSet fields hN st₁ st₂ v h₁ h₂⟩

/-! ### the whole type universe: one DER encoding, one CER encoding per abstract value

`canonical_encoding` (Proofs/Canonical.lean): for an encoder that sorts SET OF, two values that are the
same abstract value (`VEq`: SET OF compared as a multiset at every depth, REAL as the number denoted)
get the same octets.  Region: as for the codec theorems, and every DEFAULT member has a type on which
`VEq` is plain equality (`Ty.dfltExact`: the encoders decide omission of a DEFAULT member with `==` on
the stored components - a DEFAULT of SET OF or REAL type is the recorded finding T11's territory). -/

/-- **DER bytes depend only on the abstract value** -/
theorem der_bytes_depend_only_on_value_partial (o : EncOpts) (hi : o.ifNotEmpty = false) (t : Ty) (v v' : Val)
    (hreg : t.reg true Generated.derEnc true = true) (hwf : t.WF = true) (hd : t.dfltExact = true)
    (hty : HasType t v = true) (hn : noE3 true t v = true) (hv : VEq t v v') (b : Bytes)
    (h : encItem Generated.derEnc o t v = .ok b) : encItem Generated.derEnc o t v' = .ok b :=
  canonical_encoding Generated.derEnc derProfile o hi rfl (C02.der_region o) t v v' hreg hwf hd hty hn hv b h

/-- **CER bytes depend only on the abstract value** -/
theorem cer_bytes_depend_only_on_value_partial (o : EncOpts) (hi : o.ifNotEmpty = false) (t : Ty) (v v' : Val)
    (hreg : t.reg true Generated.cerEnc false = true) (hwf : t.WF = true) (hd : t.dfltExact = true)
    (hty : HasType t v = true) (hn : noE3 true t v = true) (hv : VEq t v v') (b : Bytes)
    (h : encItem Generated.cerEnc o t v = .ok b) : encItem Generated.cerEnc o t v' = .ok b :=
  canonical_encoding Generated.cerEnc cerProfile o hi rfl (C02.cer_region o) t v v' hreg hwf hd hty hn hv b h

/-- **any order of the members of a SET OF gives the same DER** - every element type of the region -/
theorem setOf_perm_invariant (o : EncOpts) (hi : o.ifNotEmpty = false) (t : Ty) (xs ys : List Val)
    (hreg : t.reg true Generated.derEnc true = true) (hwf : t.WF = true) (hd : t.dfltExact = true)
    (hty : ∀ x ∈ xs, HasType t x = true) (hn : ∀ x ∈ xs, noE3 true t x = true) (p : xs.Perm ys) (b : Bytes)
    (h : encItem Generated.derEnc o (.setOf t) (.seqOf xs) = .ok b) :
    encItem Generated.derEnc o (.setOf t) (.seqOf ys) = .ok b := by
  refine der_bytes_depend_only_on_value_partial o hi (.setOf t) (.seqOf xs) (.seqOf ys) (by simpa [Ty.reg] using hreg)
    hwf hd (List.all_eq_true.mpr hty)
    (List.all_eq_true.mpr hn) ?_ b h
  refine ⟨xs, ?_, p⟩
  have : ∀ (l : List Val), (∀ x ∈ l, HasType t x = true) → All2 (fun a b => VEq t a b) l l := by
    intro l
    induction l with
    | nil => intro _; trivial
    | cons a l ih => intro hl; exact ⟨veq_refl t a (hl a (by simp)), ih (fun x hx => hl x (by simp [hx]))⟩
  exact this xs hty

/-- **decoding a DER encoding and encoding the result again gives the same octets** (the decoder may hand back
    another representative of the abstract value - SET OF in wire order, a REAL normalised - the encoder does not care) -/
theorem der_reencode_partial (o : EncOpts) (hi : o.ifNotEmpty = false) (t : Ty) (v : Val) (b tail : Bytes)
    (hreg : t.reg true Generated.derEnc true = true) (hwf : t.WF = true) (hd : t.dfltExact = true)
    (hty : HasType t v = true) (hn : noE3 true t v = true) (h : encItem Generated.derEnc o t v = .ok b) :
    ∃ w, decodeOne Generated.derDecByType t (b ++ tail) = .ok (w, tail) ∧ encItem Generated.derEnc o t w = .ok b := by
  obtain ⟨w, hdec, hv⟩ := (C02.der_roundtrip_partial o hi t v b tail hreg hwf hty hn h).1
  exact ⟨w, hdec, der_bytes_depend_only_on_value_partial o hi t v w hreg hwf hd hty hn hv b h⟩

/-- **decoding a CER encoding and encoding the result again gives the same octets** -/
theorem cer_reencode_partial (o : EncOpts) (hi : o.ifNotEmpty = false) (t : Ty) (v : Val) (b tail : Bytes)
    (hreg : t.reg true Generated.cerEnc false = true) (hwf : t.WF = true) (hd : t.dfltExact = true)
    (hty : HasType t v = true) (hn : noE3 true t v = true) (h : encItem Generated.cerEnc o t v = .ok b) :
    ∃ w, decodeOne Generated.cerDecByType t (b ++ tail) = .ok (w, tail) ∧ encItem Generated.cerEnc o t w = .ok b := by
  obtain ⟨w, hdec, hv⟩ := (C02.cer_roundtrip_partial o hi t v b tail hreg hwf hty hn h).1
  exact ⟨w, hdec, cer_bytes_depend_only_on_value_partial o hi t v w hreg hwf hd hty hn hv b h⟩

/-- the hypotheses are met by a non-trivial element type: SET OF (SET OF INTEGER), and by a record with a SET OF member,
    a REAL and a DEFAULT of exact type -/
example :
    let t : Ty := .setOf (.prim .integer)
    let r : Ty := .seq (.cons .req (.setOf (.tagged true .context 0 (.prim (.str 12)))) (.cons .req (.prim .real)
      (.cons (.dflt (.int 7)) (.prim .integer) .nil)))
    t.reg true Generated.derEnc true = true ∧ t.dfltExact = true ∧ t.WF = true ∧
    r.reg true Generated.derEnc true = true ∧ r.dfltExact = true ∧ r.WF = true ∧
    HasType r (.seq [.seqOf [.str [0x62], .str [0x61, 0x61]], .real (.fin 12 2 3), .int 7]) = true ∧
    VEq r (.seq [.seqOf [.str [0x62], .str [0x61, 0x61]], .real (.fin 12 2 3), .int 7])
          (.seq [.seqOf [.str [0x61, 0x61], .str [0x62]], .real (.fin 3 2 5), .int 7]) := by
  refine ⟨by decide +kernel, by decide +kernel, by decide +kernel, by decide +kernel, by decide +kernel,
    by decide +kernel, by decide +kernel, ?_⟩
  dsimp only [VEq, VEqFields]
  simp only [and_true]
  refine ⟨⟨[.str [0x62], .str [0x61, 0x61]], by simp [All2], List.Perm.swap _ _ _⟩, ?_⟩
  decide

/-- **any order of adding SET OF members gives the same DER and the same CER bytes** — for SET OF
    INTEGER objects: two objects whose members are permutations of one another encode identically
    (`setOf_perm_invariant` above is the statement for every element type, on abstract values) -/
theorem setOf_perm_invariant_partial (typed : Bool) (l₁ l₂ : List (Option Int)) (zs₁ zs₂ : List Int)
    (i₁ : ListSpec.Inv typed (some l₁)) (i₂ : ListSpec.Inv typed (some l₂))
    (h₁ : ListSpec.allSet l₁ = some zs₁) (h₂ : ListSpec.allSet l₂ = some zs₂) (p : zs₁.Perm zs₂) :
    SeqOf.encodeObj Generated.derEnc typed true (ListSpec.rep typed (some l₁)) =
      SeqOf.encodeObj Generated.derEnc typed true (ListSpec.rep typed (some l₂)) ∧
    SeqOf.encodeObj Generated.cerEnc typed true (ListSpec.rep typed (some l₁)) =
      SeqOf.encodeObj Generated.cerEnc typed true (ListSpec.rep typed (some l₂)) :=
  ⟨seqOf_encodeObj_perm Generated.derEnc rfl typed h₁ h₂ p, seqOf_encodeObj_perm Generated.cerEnc rfl typed h₁ h₂ p⟩

/-- the general mechanism, for any element type: the SET OF sort gives the same list for every
    permutation of member encodings that are definite-length framed under one identifier (no two of
    them are zero-paddings of one another, so the padded sort key is injective and the stability of
    the sort is irrelevant) -/
theorem setOf_sort_perm_framed (hdr : Bytes) (xs ys : List Bytes) (p : xs.Perm ys)
    (hf : ∀ c ∈ xs, Framed hdr c) : sortSetOfChunks xs = sortSetOfChunks ys :=
  sortSetOfChunks_perm p (framed_padInj hdr xs hf)

/-- **at the source level: the order in which SET OF members were added does not reach the wire.**  `SetOfEncoder.encodeValue`
    of cer/encoder.py (CER and DER), translated from the working tree on this run (`GenK.setOfSort`), writes the same
    octets for every permutation of element encodings that are definite-length framed under one identifier (DER elements
    of one type) -/
theorem source_setof_order_insensitive (hdr : Bytes) (xs ys : List Bytes) (p : xs.Perm ys)
    (hf : ∀ c ∈ xs, Framed hdr c) :
    GenK.setOfSort (xs.map Kernels.bytesInts) = GenK.setOfSort (ys.map Kernels.bytesInts) := by
  rw [Kernels.setOfSort_kernel, Kernels.setOfSort_kernel, setOf_sort_perm_framed hdr xs ys p hf]

/-- **a DEFAULT component set explicitly to its default or left out**: same abstract content,
    hence (by `equal_abs_equal_bytes`) the same DER and CER bytes -/
theorem default_explicit_eq_absent (fields : List FK) (l : List Comp) (k : Nat) (d : Int)
    (hk : fields[k]? = some (FK.dflt d)) (hl : k < l.length) (hN : fields.length ≠ 0) (dyn : Nat) :
    Rec.abs fields ⟨some (l.set k (.val d)), dyn⟩ = Rec.abs fields ⟨some (l.set k .hole), dyn⟩ := by
  simp only [Rec.abs, hN, ne_eq, not_false_eq_true, if_true, absFields_default fields l k d hk hl]

/-- **cloning keeps the abstract content** (`clone(cloneValueFlag=True)`), for the three kinds -/
theorem clone_abs_seqOf (typed : Bool) (s : ListSpec.St) (hinv : ListSpec.Inv typed s) :
    SeqOf.abs (SeqOf.step typed (ListSpec.rep typed s) (.clone true)).1 = SeqOf.abs (ListSpec.rep typed s) := by
  rw [(clone_rep hinv true).spec_eq]
  rfl

theorem clone_abs_seq (fields : List FK) (hN : fields.length ≠ 0) (st : RecSt) (hinv : Rec.Inv fields st) :
    Rec.abs fields (Rec.step fields st (.clone true)).1 = Rec.abs fields st := by
  rw [abs_step_eq_dict hinv hN (.clone true) rfl, abs_eq_dict hinv hN]
  rfl

theorem clone_abs_choice (n : Nat) (hn : n ≠ 0) (st : ChoiceSt) (hinv : Choice.Inv n st) :
    Choice.abs (Choice.step n st (.clone true)).1 = Choice.abs st := by
  rw [choice_abs_spec, choice_abs_spec, (choice_step hinv hn (.clone true)).abs_eq]
  dsimp only [OptionSpec.step]
  cases h : (Choice.absO st).sel <;> simp [OptionSpec.abs, h]

/-- **read-only uses in between do not matter**: every operation of a record history that is a
    reader or a touch (`values()`, `items()`, `s[name]` of an unset member, `encode`, `==`, …) leaves
    the abstract content — and with it the DER/CER bytes — unchanged.  Stated for all accessors at
    once: whatever is not a setter / clear / reset / clone keeps `abs`. -/
theorem touch_preserves_abs (fields : List FK) (hN : fields.length ≠ 0) (st : RecSt)
    (hinv : Rec.Inv fields st) (hval : st.comps.isSome = true) (op : RecOp)
    (hacc : match op with
      | .getItemPos _ | .getItemName _ | .getPos _ _ | .getName _ _ | .getType _ _ | .len | .keys
      | .contains _ | .pretty => True
      | _ => False) :
    Rec.abs fields (Rec.step fields st op).1 = Rec.abs fields st := by
  suffices h : Rec.Allowed fields st op = true ∧
      DictSpec.abs fields (DictSpec.step fields (Rec.absD st) op).1 = DictSpec.abs fields (Rec.absD st) by
    rw [abs_step_eq_dict hinv hN op h.1, abs_eq_dict hinv hN]
    exact h.2
  -- on the prototype: reading a key either changes nothing or allocates / stores the default
  have hget := dict_getAt_abs fields (Rec.absD st) (by rw [Rec.absD, Option.isSome_map]; exact hval)
  cases op with
  | getItemPos i => exact ⟨rfl, hget i true⟩
  | getPos i inst => exact ⟨rfl, hget i inst⟩
  | getItemName k | getName k inst | getType k inst =>
    refine ⟨rfl, ?_⟩
    dsimp only [DictSpec.step]
    cases DictSpec.posOfName fields k with
    | none => rfl
    | some i => exact hget i _
  | len | pretty => refine ⟨rfl, ?_⟩; dsimp only [DictSpec.step]; cases Rec.absD st <;> rfl
  | keys | contains _ => exact ⟨rfl, rfl⟩
  | _ => exact hacc.elim

/-! ### non-vacuity -/

/-- two different construction histories of SEQUENCE { a INTEGER, b INTEGER OPTIONAL, c INTEGER DEFAULT 7 }
    — fields assigned in another order, the default set explicitly, reads in between — reach the
    same abstract value through different object states, and the theorem applies: identical DER -/
def exFields : List FK := [FK.req, FK.opt, FK.dflt 7]
def exSt₁ : RecSt := (Rec.run exFields ⟨some [], 0⟩ [.setItemName 0 (.py 1)]).1
def exSt₂ : RecSt :=
  (Rec.run exFields ⟨some [], 0⟩ [.setItemName 2 (.py 7), .values, .setPos 0 (.obj 1), .getItemName 1]).1

example : Rec.abs exFields exSt₁ = some (.seq [.int 1, .absent, .int 7]) := rfl
example : Rec.abs exFields exSt₂ = some (.seq [.int 1, .absent, .int 7]) := rfl
example : exSt₁ ≠ exSt₂ := by decide +kernel
example : Rec.encodeObj Generated.derEnc false exFields exSt₁ = Rec.encodeObj Generated.derEnc false exFields exSt₂ :=
  (equal_abs_equal_bytes false exFields (by decide) exSt₁ exSt₂ _ rfl rfl).1

example : Generated.derEnc.sortSetOf = true ∧ Generated.cerEnc.sortSetOf = true := ⟨rfl, rfl⟩

end Asn1.C04
