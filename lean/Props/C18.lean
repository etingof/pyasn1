/-
  Props.C18 — open types (ANY DEFINED BY): what an ANY field captures, and what decoding the
  captured octets with the mapped type gives.
-/
import Asn1.Generated
import Proofs.Parse
import Proofs.OpenType
import Props.C02
import Props.C09
import Proofs.KernelGate

namespace Asn1.C18

/-- **an untagged ANY holds exactly the complete encoding of the element it stands for** — any
    well-formed element (scalar or constructed, definite or indefinite, any length form), with any
    bytes following.  `anyOk`: neither the element nor anything reached through indefinite-length
    levels carries the tag `[UNIVERSAL 0]`, which ANY refuses (end-of-octets is in its skip list). -/
theorem any_captures_complete_encoding (cfg : DecCfg) (t : TLV) (tail : Bytes)
    (hw : t.WF) (ho : t.okFor cfg.parse) (hne : t.anyOk = true) :
    decodeOne cfg .any (t.ser ++ tail) = .ok (.any t.ser, tail) := by
  rw [decodeOne_ser cfg .any t tail hw ho, decTy, if_pos hne]
  rfl

/-- an EXPLICITly tagged ANY holds the complete encoding of the element inside the wrapper -/
theorem explicit_any_captures_inner (cfg : DecCfg) (cls : TagClass) (num : Nat) (h : Bytes) (tg : Tag)
    (i : Bool) (inner : TLV) (htag : tg.cls = cls ∧ tg.num = num)
    (hne : inner.anyOk = true) :
    decTy cfg (.tagged true cls num .any) (.cons h tg i [inner]) = .ok (.any inner.ser) := by
  simp [decTy, htag, hne]

/-- second pass: decoding the captured octets with the mapped type is decoding the inner element
    with that type (resolution = composition; nothing of the container leaks into it) -/
theorem resolve_captured (cfg : DecCfg) (ty : Ty) (inner : TLV) (hw : inner.WF) (ho : inner.okFor cfg.parse) :
    decodeOne cfg ty inner.ser = (decTy cfg ty inner).map (·, []) := by
  have := decodeOne_ser cfg ty inner [] hw ho
  rwa [List.append_nil] at this


/-! ### the whole property: typed inner value in, governing value picks the type, inner value out

`encodeOpen` / `decodeOpen` (Asn1/OpenType.lean) model the open type branch of the SEQUENCE encoder and
the second decoding pass (`decodeOpenTypes`); the container is
`SEQUENCE { id T_id, value [UNTAGGED | [c n] IMPLICIT | [c n] EXPLICIT] ANY DEFINED BY id }`.
Full statement (C18): every container (SEQUENCE and SET, single ANY and SET OF / SEQUENCE OF ANY).
Proved: the SEQUENCE container with a single ANY field in its three taggings, any governing type whose
values compare by equality (INTEGER, OID, …), any inner type of the region (nested, tagged, constructed),
any type map (`map` is the map in force — the caller's override is just another function), both settings of
`decodeOpenTypes`, mapped and unmapped governing values, any bytes following.  SET containers and
SET OF / SEQUENCE OF ANY fields are decided by the oracle on the real code. -/

theorem ber_enc_region (o : EncOpts) : EncRegion Generated.berEnc berProfile (Generated.berEnc.fixedChunk.getD o.maxChunk) :=
  { boolT := by decide, chunk := Or.inr rfl, setOmit := Or.inl rfl }

/-- the conclusion of the open type round trip for one decoder -/
def OpenRoundTrip (dcfg : DecCfg) (idTy : Ty) (a : AnyTag) (map : Val → Option Ty) (g : Val) (ti : Ty) (w : Val)
    (chunk b tail : Bytes) : Prop :=
  -- resolution off: the field holds exactly the complete encoding of the inner value
  decodeOpen dcfg idTy a map false (b ++ tail) = .ok (⟨g, chunk, none⟩, tail) ∧
  -- resolution on, governing value not in the map: likewise
  (map g = none → decodeOpen dcfg idTy a map true (b ++ tail) = .ok (⟨g, chunk, none⟩, tail)) ∧
  -- resolution on, governing value mapped to the inner value's type: the inner value comes back
  (map g = some ti → ∃ w', decodeOpen dcfg idTy a map true (b ++ tail) = .ok (⟨g, chunk, some w'⟩, tail) ∧ VEq ti w w')

/-- the open type round trip for the BER codec, in definite and indefinite mode, with any `maxChunkSize` -/
theorem open_type_roundtrip_ber_partial (o : EncOpts) (hi : o.ifNotEmpty = false)
    (idTy : Ty) (g : Val) (hreg : idTy.reg true Generated.berEnc o.defMode = true) (hwf : idTy.WF = true)
    (hty : HasType idTy g = true) (hid : ∀ g', VEq idTy g g' → g' = g)
    (a : AnyTag) (ha : a.ok = true)
    (ti : Ty) (w : Val) (hregi : ti.reg true Generated.berEnc o.defMode = true) (hwfi : ti.WF = true)
    (htyi : HasType ti w = true)
    (map : Val → Option Ty) (b tail : Bytes) (h : encodeOpen Generated.berEnc o idTy a g ti w = .ok b) :
    ∃ chunk, encItem Generated.berEnc o ti w = .ok chunk ∧
      OpenRoundTrip Generated.berDecByType idTy a map g ti w chunk b tail :=
  open_roundtrip Generated.berEnc Generated.berDecByType berProfile o hi (ber_enc_region o) C09.ber_compat (Or.inr rfl)
    idTy g hreg hwf hty (noE3_false idTy g) hid a ha ti w hregi hwfi htyi (noE3_false ti w) map b tail h

/-- what the DER encoder writes for an open type is read back by the DER, CER and BER decoders
    (values outside finding E3) -/
theorem open_type_roundtrip_der_partial (o : EncOpts) (hi : o.ifNotEmpty = false)
    (idTy : Ty) (g : Val) (hreg : idTy.reg true Generated.derEnc true = true) (hwf : idTy.WF = true)
    (hty : HasType idTy g = true) (hn : noE3 true idTy g = true) (hid : ∀ g', VEq idTy g g' → g' = g)
    (a : AnyTag) (ha : a.ok = true)
    (ti : Ty) (w : Val) (hregi : ti.reg true Generated.derEnc true = true) (hwfi : ti.WF = true)
    (htyi : HasType ti w = true) (hni : noE3 true ti w = true)
    (map : Val → Option Ty) (b tail : Bytes) (h : encodeOpen Generated.derEnc o idTy a g ti w = .ok b) :
    ∃ chunk, encItem Generated.derEnc o ti w = .ok chunk ∧
      OpenRoundTrip Generated.derDecByType idTy a map g ti w chunk b tail ∧
      OpenRoundTrip Generated.cerDecByType idTy a map g ti w chunk b tail ∧
      OpenRoundTrip Generated.berDecByType idTy a map g ti w chunk b tail := by
  have key := fun dcfg hC => open_roundtrip Generated.derEnc dcfg derProfile o hi (C02.der_region o) hC
    (Or.inl rfl) idTy g hreg hwf hty hn hid a ha ti w hregi hwfi htyi hni map b tail h
  obtain ⟨c1, he1, r1⟩ := key _ C02.der_profile_all_decoders.1
  obtain ⟨c2, he2, r2⟩ := key _ C02.der_profile_all_decoders.2.1
  obtain ⟨c3, he3, r3⟩ := key _ C02.der_profile_all_decoders.2.2
  rw [he1] at he2 he3
  cases he2; cases he3
  exact ⟨c1, he1, r1, r2, r3⟩

/-- what the CER encoder writes for an open type is read back by the CER and BER decoders
    (values outside findings E1 and E3) -/
theorem open_type_roundtrip_cer_partial (o : EncOpts) (hi : o.ifNotEmpty = false)
    (idTy : Ty) (g : Val) (hreg : idTy.reg true Generated.cerEnc false = true) (hwf : idTy.WF = true)
    (hty : HasType idTy g = true) (hn : noE3 true idTy g = true) (hid : ∀ g', VEq idTy g g' → g' = g)
    (a : AnyTag) (ha : a.ok = true)
    (ti : Ty) (w : Val) (hregi : ti.reg true Generated.cerEnc false = true) (hwfi : ti.WF = true)
    (htyi : HasType ti w = true) (hni : noE3 true ti w = true)
    (map : Val → Option Ty) (b tail : Bytes) (h : encodeOpen Generated.cerEnc o idTy a g ti w = .ok b) :
    ∃ chunk, encItem Generated.cerEnc o ti w = .ok chunk ∧
      OpenRoundTrip Generated.cerDecByType idTy a map g ti w chunk b tail ∧
      OpenRoundTrip Generated.berDecByType idTy a map g ti w chunk b tail := by
  have key := fun dcfg hC hp => open_roundtrip Generated.cerEnc dcfg cerProfile o hi (C02.cer_region o) hC
    (Or.inr hp) idTy g hreg hwf hty hn hid a ha ti w hregi hwfi htyi hni map b tail h
  obtain ⟨c1, he1, r1⟩ := key _ C02.cer_profile_cer_ber.1 rfl
  obtain ⟨c2, he2, r2⟩ := key _ C02.cer_profile_cer_ber.2 rfl
  rw [he1] at he2
  cases he2
  exact ⟨c1, he1, r1, r2⟩

/-- governing values of type INTEGER / OBJECT IDENTIFIER compare by equality -/
theorem governing_integer (g g' : Val) (h : VEq (.prim .integer) g g') : g' = g :=
  ((veq_prim (by decide)).mp h).symm
theorem governing_oid (g g' : Val) (h : VEq (.prim .oid) g g') : g' = g :=
  ((veq_prim (by decide)).mp h).symm

/-- the hypotheses are met: `SEQUENCE { id OID, value [2] EXPLICIT ANY DEFINED BY id }` holding a record with an
    OPTIONAL absent and a SEQUENCE OF member as inner value; the octets are those of the library -/
example :
    let ti : Ty := .seq (.cons .req (.prim .integer) (.cons .opt (.prim .boolean) (.cons .req (.seqOf (.prim (.str 4))) .nil)))
    let w : Val := .seq [.int 5, .absent, .seqOf [.str [0x61]]]
    (Ty.prim .oid).reg true Generated.derEnc true = true ∧ HasType (.prim .oid) (.oid [2, 999, 3]) = true ∧
    (AnyTag.explicit .context 2).ok = true ∧ ti.reg true Generated.derEnc true = true ∧ ti.WF = true ∧
    HasType ti w = true ∧ noE3 true ti w = true ∧
    (encodeOpen Generated.derEnc {} (.prim .oid) (.explicit .context 2) (.oid [2, 999, 3]) ti w).toOption
      = some [0x30, 0x11, 0x06, 0x03, 0x88, 0x37, 0x03, 0xa2, 0x0a, 0x30, 0x08, 0x02, 0x01, 0x05, 0x30, 0x03, 0x04, 0x01, 0x61] := by
  decide +kernel

/-- **an untagged ANY field holds exactly the complete encoding of what it stands for, at the source level**: the translated
    `AnyPayloadDecoder.valueDecoder` (the reads being reads of the complete input), entered as the item decoder enters it -
    the mark on the element's first octet, the stream behind its header `hdr`, the declared length that of its contents -
    answers `hdr ++ content`: not an octet of what precedes the element (`pre`) nor of what follows it (`rest`), and leaves
    the stream right behind the element. For every `pre`, `hdr`, `content`, `rest`. -/
theorem source_untagged_any_holds_whole_encoding (pre hdr content rest : Bytes) :
    GenK.anyCapture ((pre.length : Nat) : Int) (Kernels.bytesInts (pre ++ (hdr ++ content) ++ rest))
        (((pre.length + hdr.length : Nat)) : Int) true ((content.length : Nat) : Int) =
      .ok (Kernels.bytesInts (hdr ++ content), ((pre.length + hdr.length + content.length : Nat) : Int)) :=
  Kernels.anyCapture_untagged pre hdr content rest

/-- a tagged ANY field (the header was its own tag): the contents only, the same end position -/
theorem source_tagged_any_holds_contents (pre hdr content rest : Bytes) (mark : Int) :
    GenK.anyCapture mark (Kernels.bytesInts ((pre ++ hdr) ++ content ++ rest))
        (((pre.length + hdr.length : Nat)) : Int) false ((content.length : Nat) : Int) =
      .ok (Kernels.bytesInts content, ((pre.length + hdr.length + content.length : Nat) : Int)) :=
  Kernels.anyCapture_tagged pre hdr content rest mark

/-- non-vacuity: in `30 06 02 01 05 04 01 61` the second member `04 01 61` under an untagged ANY: mark 5, stream at 7 -/
example : GenK.anyCapture 5 [0x30, 0x06, 0x02, 0x01, 0x05, 0x04, 0x01, 0x61] 7 true 1 = .ok ([0x04, 0x01, 0x61], 8) := by rfl
example : GenK.anyCapture 5 [0x30, 0x06, 0x02, 0x01, 0x05, 0x84, 0x01, 0x61] 7 false 1 = .ok ([0x61], 8) := by rfl
example : GenK.anyCapture 5 [0x30, 0x06, 0x02, 0x01, 0x05, 0x04, 0x03, 0x61] 7 true 3 = .error (.lib "SubstrateUnderrunError") := by rfl

end Asn1.C18
