/-
  Props.C09 — every valid BER form of a value decodes to that value.
  The set BER(T, v) is the relation `IsBer berProfile T v` of Asn1/BerSpec.lean together with
  `TLV.WF` (any header that decodes to the right tag and length — short, long, over-long —, definite
  or indefinite at every constructed level).
-/
import Asn1.Generated
import Asn1.BerSpec
import Proofs.Parse
import Proofs.Complete
import Proofs.Kernels
import Proofs.KernelLen
import Proofs.KernelTag
import Proofs.KernelBits

namespace Asn1.C09

/-- any mix of short, long and over-long length forms and of definite/indefinite lengths at each
    constructed level: `HdrOk` only asks that the length octets *decode* to the length (so long
    forms with redundant leading zeros are included), and `TLV.WF` allows `indef` at every
    constructed node independently.  Every such tree is framed as itself by the BER decoder. -/
theorem every_framing_accepted (t : TLV) (tail : Bytes) (hw : t.WF) :
    parseOne Generated.berDecByType.parse (t.ser ++ tail) = .ok (t, tail) :=
  parseOne_ser _ t tail hw (Or.inl (by decide))

/-- a long-form length with a redundant leading zero is a legal header (non-vacuity of the above
    for over-long forms) -/
example : HdrOk [0x04, 0x82, 0x00, 0x03] ⟨.universal, false, 4⟩ (.definite 3) :=
  ⟨[0x04], [0x82, 0x00, 0x03], rfl, fun _ => rfl, fun _ => rfl⟩

/-- the `stDecodeLength` block of `SingleItemDecoder.__call__` (ber/decoder.py; translated by gen/py2lean.py into
    `GenK.decodeLength`, the two stream reads being its arguments) computes the model's `decodeLength`: every first
    octet, whatever follows; `supportIndefLength` as a parameter -/
theorem source_length_decoding_is_model (allowIndef : Bool) (b : UInt8) (rest : Bytes) :
    GenK.decodeLength allowIndef (b.toNat : Int) (Kernels.bytesInts (rest.take (b.toNat % 128))) =
      Kernels.liftDecLen allowIndef (decodeLength (b :: rest)) :=
  Kernels.decodeLength_kernel allowIndef b rest

/-- **every legal length header is read as its length by the source**: whenever the octets `b :: lb` are a length
    header for `n` in the sense of `HdrOk` (short form, long form, long form with redundant leading zeros) and `n`
    does not exceed `sys.maxsize`, the translated block answers `n` -/
theorem source_length_any_form (allowIndef : Bool) (b : UInt8) (lb : Bytes) (n : Nat)
    (h : ∀ r, decodeLength ((b :: lb) ++ r) = .ok (.definite n, r)) (hn : n ≤ 9223372036854775807) :
    GenK.decodeLength allowIndef (b.toNat : Int) (Kernels.bytesInts (lb.take (b.toNat % 128))) = .ok (n : Int) := by
  have h0 := h []
  simp only [List.append_nil] at h0
  rw [Kernels.decodeLength_kernel allowIndef b lb, h0]
  exact Kernels.liftDecLen_definite allowIndef hn []

/-- **length octets round trip at the source level**: what the translated `encodeLength` writes for a length (definite
    mode; any length up to `sys.maxsize` that fits 126 octets), the translated `stDecodeLength` block reads back as that
    length - the encoder's and the decoder's code as they are in the working tree, composed -/
theorem source_length_roundtrip (allowIndef indefOk : Bool) (n : Nat) (hn : n ≤ 9223372036854775807) :
    ∃ (b : UInt8) (lb : Bytes), GenK.encodeLength indefOk (n : Int) true = .ok (Kernels.bytesInts (b :: lb)) ∧
      GenK.decodeLength allowIndef (b.toNat : Int) (Kernels.bytesInts (lb.take (b.toNat % 128))) = .ok (n : Int) := by
  have hlen : (be256 n).length ≤ 8 := Kernels.be256_length_le 8 n (by
    show n < 256 ^ 8
    omega)
  obtain ⟨l, hl⟩ := Option.isSome_iff_exists.mp (encodeLength_isSome n (by omega))
  have hdec := decodeLength_encodeLength n l hl
  obtain ⟨b, lb, rfl⟩ := List.exists_cons_of_ne_nil (encodeLength_ne_nil n l hl)
  exact ⟨b, lb, Kernels.encodeLength_kernel_of_some indefOk hl, source_length_any_form allowIndef b lb n hdec hn⟩

/-- the `stDecodeTag` block of `SingleItemDecoder.__call__` (ber/decoder.py; translated by gen/py2lean.py into
    `GenK.decodeTag`, the reads from the stream being reads of the complete input, a cache miss being what is
    computed) computes the model's `decodeTag` on every input: class, form bit, tag number through the long-form loop,
    octets consumed; the input ending inside the identifier is the one-shot decoder's SubstrateUnderrunError -/
theorem source_identifier_decoding_is_model (bs : Bytes) :
    GenK.decodeTag (Kernels.bytesInts bs) = Kernels.liftDecTag bs.length (decodeTag bs) :=
  Kernels.decodeTag_kernel bs

/-- **identifier octets round trip at the source level**: what the translated `encodeTag` writes for a tag (every
    class, both forms, every tag number, `isConstructed` either way), the translated `stDecodeTag` block reads back as
    that class, form and number, consuming exactly those octets, whatever follows -/
theorem source_identifier_roundtrip (t : Tag) (ic : Bool) (r : Bytes) :
    ∃ ident : Bytes, GenK.encodeTag (Kernels.tagTriple t) ic = .ok (Kernels.bytesInts ident) ∧
      GenK.decodeTag (Kernels.bytesInts (ident ++ r)) =
        .ok [(t.cls.bits : Int), if (t.constructed || ic) then 32 else 0, (t.num : Int), (ident.length : Int)] := by
  refine ⟨encodeTag t ic, Kernels.encodeTag_kernel t ic, ?_⟩
  rw [Kernels.decodeTag_kernel, decodeTag_encodeTag]
  simp only [Kernels.liftDecTag, List.length_append, Nat.add_sub_cancel]

/-- non-vacuity: `[PRIVATE 1960]` constructed is `FF 8F 28`; read back with three octets consumed -/
example : GenK.decodeTag [0xFF, 0x8F, 0x28, 0x03, 0x02] = .ok [192, 32, 1960, 3] := by rfl
example : GenK.decodeTag [0xFF, 0x8F] = .error (.lib "SubstrateUnderrunError") := by rfl
example : GenK.decodeTag [0x04, 0x01] = .ok [0, 0, 4, 1] := by rfl

/-- **BIT STRING contents at the source level**: the primitive branch of `BitStringPayloadDecoder.valueDecoder` together with
    `BitString.fromOctetString` (both translated from /repo on this run) read any contents octets `c` as the model's
    `bitsFromContent` does - the value object keeps the bit list as an integer and its length in bits -/
theorem source_bit_string_contents_is_model (c : Bytes) :
    GenK.bitsDecode (Kernels.bytesInts c) ((c.length : Nat) : Int) = Kernels.liftBits (bitsFromContent c) :=
  Kernels.bitsDecode_kernel c

/-- **every BIT STRING value is read back from its contents octets, at the source level**: what the model's encoder writes
    for a bit list (unused-bits count, the bits left-aligned), the translated decoder branch reads as that bit list - for
    every length, a multiple of eight or not -/
theorem source_bit_string_roundtrip (bs : List Bool) :
    GenK.bitsDecode (Kernels.bytesInts (bitsToContent bs)) (((bitsToContent bs).length : Nat) : Int) =
      .ok (((bitsToNat bs : Nat) : Int), ((bs.length : Nat) : Int)) := by
  rw [Kernels.bitsDecode_kernel, bitsFromContent_bitsToContent]
  rfl

/-- non-vacuity: `06 6E 5D C0` is the 18-bit string 011011100101110111 (X.690 8.6.4.2) = 0x1B977; `08 FF` and an empty
    contents are refused; seven unused bits with no octet to hold them are refused -/
example : GenK.bitsDecode [0x06, 0x6E, 0x5D, 0xC0] 4 = .ok (0x1B977, 18) := by rfl
example : GenK.bitsDecode [0x08, 0xFF] 2 = .error (.lib "PyAsn1Error") := by rfl
example : GenK.bitsDecode [] 0 = .error (.lib "PyAsn1Error") := by rfl
example : GenK.bitsDecode [0x07] 1 = .error (.lib "PyAsn1Error") := by rfl
example : GenK.bitsDecode [0x00] 1 = .ok (0, 0) := by rfl

/-- **BER BOOLEAN at the source level: every contents string, any non-zero value is TRUE** - the translated INTEGER decoder
    followed by the translated `BooleanPayloadDecoder._createComponent` (`value and 1 or 0`) answers 1 exactly when the
    contents, read as a two's complement integer, are not zero: all 255 non-zero single octets, longer contents, and the
    empty contents (FALSE) - the model's lenient BOOLEAN branch -/
theorem source_ber_boolean_nonzero_is_true (c : Bytes) :
    (GenK.intDecode (Kernels.bytesInts c) >>= GenK.berBoolDec) = .ok (if intFromBytes c != 0 then 1 else 0) :=
  Kernels.berBoolDec_kernel c

/-- every single non-zero octet is TRUE -/
theorem source_ber_boolean_octet (b : UInt8) :
    (GenK.intDecode (Kernels.bytesInts [b]) >>= GenK.berBoolDec) = .ok (if b = 0 then 0 else 1) := by
  rw [Kernels.berBoolDec_kernel, intFromBytes_single_ne]
  by_cases h : b = 0 <;> simp [h]

example : (GenK.intDecode [0x80] >>= GenK.berBoolDec) = .ok 1 := by rfl
example : (GenK.intDecode [] >>= GenK.berBoolDec) = .ok 0 := by rfl
example : (GenK.intDecode [0, 0, 1] >>= GenK.berBoolDec) = .ok 1 := by rfl

/-- over-long form: `82 00 03` is read as 3; the indefinite marker as -1 by BER and refused by a codec without
    indefinite lengths (DER) -/
example : GenK.decodeLength true 0x82 [0, 3] = .ok 3 := by rfl
example : GenK.decodeLength true 0x80 [] = .ok (-1) := by rfl
example : GenK.decodeLength false 0x80 [] = .error (.lib "PyAsn1Error") := by rfl

/-- the BER decoder tables extracted from the source admit everything the basic rules allow -/
theorem ber_compat : Compat berProfile Generated.berDecByType :=
  { bool := fun _ => rfl, seg := fun _ => ⟨rfl, by decide⟩ }

/-- **every valid BER form decodes to the value** (types without ANY; REAL in binary form, compared as
    the number it denotes).  For every
    well-formed type, every value, every tree `x` that the basic encoding rules allow as an encoding
    of the value — any length forms, definite or indefinite at each level, primitive or segmented
    (also nested) strings, any non-zero octet for TRUE, SET members in any order, SET OF elements
    in any order, DEFAULT members present or absent — followed by any octets: the BER decoder
    returns the value (equal up to the order of SET OF elements and the representation of REALs) and exactly the octets that follow. -/
theorem every_ber_form_decodes (t : Ty) (v : Val) (x : TLV) (tail : Bytes)
    (hp : t.plain = true) (hw : t.WF = true) (hx : x.WF) (hb : IsBer berProfile t v x) :
    ∃ w, decodeOne Generated.berDecByType t (x.ser ++ tail) = .ok (w, tail) ∧ VEq t v w := by
  obtain ⟨w, hd, hv, _⟩ := complete_ty berProfile Generated.berDecByType ber_compat t v x hp hw hb
  exact ⟨w, by rw [decodeOne_ser _ t x tail hx (Or.inl rfl), hd]; rfl, hv⟩

/-- the relation is inhabited by forms the library's own encoder never produces: a SET whose
    members arrive in the opposite order, the first one TRUE written as 0x01, inside an
    indefinite-length element with an over-long length octet on a member -/
example :
    let t : Ty := .set (.cons .req (.prim .boolean) (.cons .req (.prim .null) .nil))
    let x : TLV := .cons [0x31, 0x80] ⟨.universal, true, 17⟩ true
      [.prim [0x05, 0x81, 0x00] ⟨.universal, false, 5⟩ [], .prim [0x01, 0x01] ⟨.universal, false, 1⟩ [0x01]]
    IsBer berProfile t (.seq [.bool true, .null]) x := by
  refine .set rfl rfl (.set (ms := [.prim [0x01, 0x01] ⟨.universal, false, 1⟩ [0x01],
      .prim [0x05, 0x81, 0x00] ⟨.universal, false, 5⟩ []]) ?_ (List.Perm.swap _ _ _))
  exact .present (.prim rfl rfl (.boolTrue (by decide)))
    (.present (.prim rfl rfl .null) .nil)

end Asn1.C09
