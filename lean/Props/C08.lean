/-
  Props.C08 — malformed input fails cleanly: only library errors, always terminates.
-/
import Asn1.Generated
import Proofs.Fuel
import Proofs.Sound
import Proofs.KernelBits

namespace Asn1.C08

/-- **termination on arbitrary input**: with the fuel the one-shot wrapper passes (`|b| + 2`) the
    framing parser never runs out of fuel, for every byte string and every configuration: the
    number of recursive steps is bounded linearly in the input size. -/
theorem framing_terminates (cfg : ParseCfg) (bs : Bytes) : parseOne cfg bs ≠ .error .fuel :=
  parseOne_ne_fuel cfg bs

/-- every successful framing step consumes at least two octets, so at most `|b| / 2` elements are
    ever delivered from `b` -/
theorem framing_progress (cfg : ParseCfg) (bs : Bytes) (t : TLV) (rest : Bytes)
    (h : parseOne cfg bs = .ok (t, rest)) : rest.length + 2 ≤ bs.length :=
  parse_consumes cfg _ bs t rest h

/-- extra fuel never changes the answer (the bound is not an artefact of the fuel chosen) -/
theorem framing_fuel_irrelevant (cfg : ParseCfg) (bs : Bytes) (g : Nat) (hg : parseFuel bs ≤ g) :
    parse cfg g bs = parseOne cfg bs :=
  parse_fuel_mono cfg (parseFuel bs) g bs hg (parseOne_ne_fuel cfg bs)

/-- **never a placeholder**: whatever is accepted under a well-formed guiding type is a complete
    value object — for all inputs -/
theorem result_is_value (cfg : DecCfg) (ty : Ty) (bs : Bytes) (v : Val) (rest : Bytes)
    (hw : ty.WF = true) (h : decodeOne cfg ty bs = .ok (v, rest)) : HasType ty v = true ∧ v ≠ .absent := by
  obtain ⟨t, _, hv⟩ := decodeOne_ok.mp h
  have hs := sound_ty cfg ty t v hw hv
  refine ⟨hs, ?_⟩
  intro he
  rw [he, HasType_ne_absent] at hs
  exact Bool.noConfusion hs

/-- **BIT STRING contents, at the source level: a value or the library's error, nothing else** - for arbitrary contents
    octets the primitive branch of `BitStringPayloadDecoder.valueDecoder` with `BitString.fromOctetString` (translated from
    /repo on this run) hands out a value or raises PyAsn1Error: no IndexError from the missing unused-bits octet, no TypeError
    from `ord`, no negative bit length from unused bits that are not there -/
theorem source_bit_string_contents_fail_cleanly (c : Bytes) :
    (∃ v, GenK.bitsDecode (Kernels.bytesInts c) ((c.length : Nat) : Int) = .ok v) ∨
      GenK.bitsDecode (Kernels.bytesInts c) ((c.length : Nat) : Int) = .error (.lib "PyAsn1Error") := by
  rw [Kernels.bitsDecode_kernel]
  cases bitsFromContent c with
  | ok bs => exact Or.inl ⟨_, rfl⟩
  | error e => exact Or.inr rfl

/-- and what it hands out never has a negative length: the bit length is that of a list -/
theorem source_bit_string_length_nonneg (c : Bytes) (v n : Int)
    (h : GenK.bitsDecode (Kernels.bytesInts c) ((c.length : Nat) : Int) = .ok (v, n)) : 0 ≤ v ∧ 0 ≤ n := by
  rw [Kernels.bitsDecode_kernel] at h
  cases hb : bitsFromContent c with
  | ok bs =>
    rw [hb] at h
    simp only [Kernels.liftBits, Except.ok.injEq, Prod.mk.injEq] at h
    omega
  | error e => rw [hb] at h; simp [Kernels.liftBits] at h

example : GenK.bitsDecode [0x09, 0xFF, 0xFF] 3 = .error (.lib "PyAsn1Error") := by rfl
example : GenK.bitsDecode [0x03] 1 = .error (.lib "PyAsn1Error") := by rfl

/-- **NULL contents, at the source level: accepted empty, refused otherwise - by the library's error** (the translated
    `NullPayloadDecoder.valueDecoder`): any contents octets at all are "Unexpected n-octet substrate for Null", a constructed
    identifier is "Simple tag format expected"; nothing else can come out -/
theorem source_null_contents_fail_cleanly (notSimple : Bool) (c : Bytes) :
    GenK.nullDecode notSimple (Kernels.bytesInts c) ((c.length : Nat) : Int) =
      if !notSimple && c.isEmpty then .ok 0 else .error (.lib "PyAsn1Error") := by
  rw [Kernels.nullDecode_kernel]
  cases notSimple <;> cases c <;> simp

example : GenK.nullDecode false [] 0 = .ok 0 := by rfl
example : GenK.nullDecode false [0] 1 = .error (.lib "PyAsn1Error") := by rfl

/-- the decoders' error state for unknown tags is "raise a library error" in all three codecs
    (generated from `SingleItemDecoder.defaultErrorState`; 8 = stErrorCondition) -/
theorem default_error_state :
    Generated.berDecDefaultErrorState = 8 ∧ Generated.cerDecDefaultErrorState = 8 ∧
    Generated.derDecDefaultErrorState = 8 := by
  decide

end Asn1.C08
