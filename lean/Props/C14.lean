/-
  Props.C14 — constraints mean what set theory says and cannot be bypassed.
  The lemmas live in Proofs/Constraint*.lean, two apart that are stated next to their use; the model is Asn1/Constraint.lean
  (pyasn1/type/constraint.py and the constraint-related parts of base.py / univ.py / ber/encoder.py
  as they are after the /repo fixes e45f9fd, 317983f, 8df4c27).
-/
import Proofs.Constraint
import Proofs.ConstraintTyped
import Proofs.ConstraintDerive
import Proofs.ConstraintSound
import Proofs.KernelConstraint

namespace Asn1.C14

open Asn1.Constraint

theorem eval_eq_true (c : Constr) (i : Option Nat) (v : CVal) :
    eval c i v = true ↔ run c i v = .accept := by
  simp [eval]

/-- **Constraint expressions admit exactly their set-theoretic denotation.**  For every expression
    over the public classes (any depth), every `idx` and every candidate value: unless evaluation
    dies with a non-library exception (`leak`: the constraint is not applicable to that kind of
    value), pyasn1's `c(value, idx)` returns normally iff the value is in `den c`
    (membership, ⋂, ⋃, complement; an operand-less constraint denotes "unconstrained"). -/
theorem eval_iff_den (c : Constr) (i : Option Nat) (v : CVal) (h : run c i v ≠ .leak) :
    eval c i v = true ↔ den c i v := by
  rw [eval_eq_true]
  exact run_sound c i v h

/-- a constructible constraint applied to a value of a kind it is applicable to (ranges to
    integers, sizes to sized values, alphabets to iterables, WITH COMPONENTS to mappings, …) never
    raises anything but ValueConstraintError -/
theorem typed_never_leaks (c : Constr) (i : Option Nat) (v : CVal)
    (hw : c.wf = true) (ht : typed c v = true) : run c i v ≠ .leak :=
  typed_no_leak c i v hw ht

/-- … so on the property's domain evaluation decides membership in the denotation -/
theorem eval_iff_den_typed (c : Constr) (i : Option Nat) (v : CVal)
    (hw : c.wf = true) (ht : typed c v = true) : eval c i v = true ↔ den c i v :=
  eval_iff_den c i v (typed_no_leak c i v hw ht)

/-- `subtypeSpec + extra` (what `subtype(subtypeSpec=extra)` computes) denotes the intersection -/
theorem derive_is_intersection (c extra : Constr) (i : Option Nat) (v : CVal) :
    den (derive c extra) i v ↔ den c i v ∧ den extra i v :=
  derive_den c extra i v

/-- **A derived type admits a subset of its parent's values.** -/
theorem subtype_subset (c extra : Constr) (i : Option Nat) (v : CVal)
    (h : den (derive c extra) i v) : den c i v :=
  ((derive_den c extra i v).mp h).1

/-- … along any derivation chain `T0 → subtype → subtype → …` -/
theorem chain_subset (c : Constr) (i : Option Nat) (v : CVal) :
    ∀ (es : List Constr), den (deriveChain c es) i v → den c i v
  | [], h => h
  | e :: es, h => subtype_subset c e i v (chain_subset (derive c e) i v es h)

/-- **The parent recognises the derived constraint set as its subtype.** -/
theorem subtype_recognised (parent extra : Constr) (hw : parent.wf = true) :
    isSuperTypeOf parent (derive parent extra) = true :=
  super_of_imposes parent _ hw (imposes_derive parent extra)

/-- … and so does every ancestor along a derivation chain (also the chain of length 0) -/
theorem chain_recognised (ancestor : Constr) (hw : ancestor.wf = true) (es : List Constr) :
    isSuperTypeOf ancestor (deriveChain ancestor es) = true := by
  cases es with
  | nil => exact super_refl ancestor
  | cons e es =>
    exact super_of_imposes ancestor _ hw (imposes_chain ancestor es _ (imposes_derive ancestor e))

/-- **Values of a derived type can be assigned where the parent is expected**: the check of
    `setComponentByPosition` (non-strict: `componentType.isSuperTypeOf(value)`, tags and
    constraints) passes for `parent.subtype(subtypeSpec=extra)` and for
    `parent.subtype(explicitTag=…, subtypeSpec=extra)`, with or without `extra`. -/
theorem assignable_derived (parent child : STy) (tg : Tagging) (extra : Option Constr)
    (hw : parent.spec.wf = true) (htg : ∀ c n, tg ≠ .implicit c n)
    (h : parent.subtype tg extra = some child) : assignable false parent child = true := by
  have hspec : Constraint.isSuperTypeOf parent.spec (deriveOpt parent.spec extra) = true := by
    cases extra with
    | none => exact super_refl _
    | some e => exact subtype_recognised _ e hw
  cases tg with
  | none =>
    cases h
    exact Bool.and_eq_true_iff.mpr ⟨superTagSet_refl _, hspec⟩
  | explicit c n =>
    simp only [STy.subtype, TagSet.tagExplicitly] at h
    by_cases hc : c = .universal
    · simp [hc] at h
    · simp only [hc, if_false, Option.map_some, Option.some.injEq] at h
      subst h
      exact Bool.and_eq_true_iff.mpr ⟨superTagSet_append _ _, hspec⟩
  | implicit c n => exact absurd rfl (htg c n)

/-- **The assignment check cannot be used to bypass a constraint.**  Whatever value object the check of
    `setComponentByPosition` lets into a field — non-strict (`isSuperTypeOf`: the value's type is, or is
    derived from, the field's type) or strict (`isSameTypeWith`) — holds a value in the denotation of
    the *field's* constraint, given that it is in the denotation of its own type's constraint (which
    `scalar_ops_checked` guarantees for every value object).  Full statement: for every pair of
    constraint sets.  Proved: for value types without a ConstraintsUnion on their value-map path —
    the excluded region is exactly the recorded finding U1 (`P` counts as a supertype of `P | Q`,
    relied on by tests/type/test_constraint.py DirectDerivationTestCase.testGoodVal); the witness below
    shows the unrestricted statement is false of model and code alike. -/
theorem assignment_check_sound_partial (strict : Bool) (fieldTy valueTy : STy)
    (hw : fieldTy.spec.wf = true) (hu : valueTy.spec.noUnionMap = true)
    (h : assignable strict fieldTy valueTy = true) (i : Option Nat) (v : CVal)
    (hv : den valueTy.spec i v) : den fieldTy.spec i v := by
  cases strict with
  | true => exact of_decide_eq_true (Bool.and_eq_true_iff.mp h).2 ▸ hv
  | false => exact supertype_sound _ _ hw hu (Bool.and_eq_true_iff.mp h).2 i v hv

/-- finding U1 in the model: INTEGER (0..5) accepts a value object of type INTEGER (0..5 | 20..30) holding 25 -/
theorem union_operand_counts_as_supertype :
    isSuperTypeOf (valueRange 0 5) (union [valueRange 0 5, valueRange 20 30]) = true ∧
    eval (union [valueRange 0 5, valueRange 20 30]) none (.atom (.int 25)) = true ∧
    eval (valueRange 0 5) none (.atom (.int 25)) = false := by decide +kernel

theorem mkScalar_checked {ty : STy} {a : Atom} {r : Scalar} (h : mkScalar ty a = .ok r) :
    eval r.ty.spec none (.atom r.value) = true := by
  unfold mkScalar at h
  cases hr : run ty.spec none (.atom a) with
  | accept =>
    simp only [hr, Except.ok.injEq] at h
    subst h
    simp [eval, hr]
  | reject => simp [hr] at h
  | leak => simp [hr] at h

/-- **No way of producing a scalar value object yields a value its type's constraints reject**:
    construction, `clone`, `subtype` (new tags and/or added constraints, with or without a new
    value), every arithmetic / slicing / concatenation / repetition method (`applyOp f`, `f` the
    payload expression — they are all `return self.clone(f(self._value))`) and decoding
    (`asn1Spec.clone(payload)`) either fail or return an object whose value its own (possibly
    narrowed) constraint accepts. -/
theorem scalar_ops_checked :
    (∀ ty a r, mkScalar ty a = .ok r → eval r.ty.spec none (.atom r.value) = true) ∧
    (∀ (x : Scalar) value r, x.clone value = .ok r → eval r.ty.spec none (.atom r.value) = true) ∧
    (∀ (x : Scalar) value tg extra r, x.subtype value tg extra = .ok r →
        eval r.ty.spec none (.atom r.value) = true) ∧
    (∀ (x : Scalar) f r, x.applyOp f = .ok r → eval r.ty.spec none (.atom r.value) = true) ∧
    (∀ ty payload r, decodeScalar ty payload = .ok r → eval r.ty.spec none (.atom r.value) = true) := by
  refine ⟨fun _ _ _ h => mkScalar_checked h, fun _ _ _ h => mkScalar_checked h, ?_, ?_,
    fun _ _ _ h => mkScalar_checked h⟩
  · intro x value tg extra r h
    unfold Scalar.subtype at h
    cases hs : x.ty.subtype tg extra with
    | none => simp [hs] at h
    | some ty => exact mkScalar_checked (by simpa [hs] using h)
  · intro x f r h
    unfold Scalar.applyOp at h
    cases hf : f x.value with
    | none => simp [hf] at h
    | some a => exact mkScalar_checked (by simpa [hf] using h)

/-- … hence the value is in the denotation of the object's constraint, and (for `subtype` with an
    added constraint) in the parent's -/
theorem scalar_value_in_denotation {ty : STy} {a : Atom} {r : Scalar} (h : mkScalar ty a = .ok r) :
    den r.ty.spec none (.atom r.value) :=
  (run_sound _ _ _).of_accept ((eval_eq_true _ _ _).mp (mkScalar_checked h))

/-- **Encoders refuse constructed values that violate their constraints**: the gate
    `inconsistency = value.isInconsistent; if inconsistency: raise` lets the encoder go on only
    when the `{idx|name: component}` mapping is in the denotation of the (constructible) subtypeSpec -/
theorem constructed_refused (spec : Constr) (mapping : CVal) (hw : spec.wf = true)
    (h : encodeGate spec mapping = .accept) : den spec none mapping :=
  (encodeGate_sound spec mapping hw).of_accept h

/-- … and refuse with a library error (not a leak) exactly when the mapping is outside the
    denotation, provided the constraint is applicable to the mapping -/
theorem constructed_refused_iff (spec : Constr) (mapping : CVal) (hw : spec.wf = true)
    (ht : typed spec mapping = true) :
    encodeGate spec mapping = .reject ↔ ¬ den spec none mapping :=
  (encodeGate_sound spec mapping hw).reject_iff
    (ite_no_leak nofun (typed_no_leak spec none mapping hw ht))

/-- a legacy `sizeSpec` never displaces the subtypeSpec (fixes b99ccc0, 6dc686b, 63bd1d5): whatever the moved
    constraint set admits, the declared subtypeSpec admits -/
theorem sizeSpec_keeps_subtypeSpec (subtypeSpec sizeSpec : Constr) (i : Option Nat) (v : CVal)
    (h : den (moveSizeSpec subtypeSpec sizeSpec) i v) : den subtypeSpec i v := by
  unfold moveSizeSpec at h
  by_cases h1 : (!sizeSpec.truthy) = true
  · rwa [if_pos h1] at h
  rw [if_neg h1] at h
  by_cases h2 : (!subtypeSpec.truthy) = true
  · rw [if_pos h2] at h
    exact ((derive_den _ _ i v).mp h).1
  rw [if_neg h2] at h
  by_cases h3 : (!imposedBy sizeSpec subtypeSpec) = true
  · rw [if_pos h3, den_intersection] at h
    exact h.1
  · rwa [if_neg h3] at h

/-! ### non-vacuity: concrete instances (the witnesses of the repaired defects among them) -/

/-- INTEGER (0..10) -/
def tI : Constr := intersection [valueRange 0 10]
/-- INTEGER (0..10)(3|4|20) as `subtype()` builds it -/
def tJ : Constr := derive tI (singleValue [.int 3, .int 4, .int 20])

example : tI.wf = true := by decide +kernel
example : eval tJ none (.atom (.int 3)) = true := by decide +kernel
example : eval tJ none (.atom (.int 20)) = false := by decide +kernel
example : den tJ none (.atom (.int 3)) := (eval_iff_den _ _ _ (by decide +kernel)).mp (by decide +kernel)
example : ¬ den tJ none (.atom (.int 20)) := fun h => by
  have := (eval_iff_den tJ none (.atom (.int 20)) (by decide +kernel)).mpr h
  revert this; decide
/-- premises of `assignment_check_sound_partial` are satisfiable: field INTEGER (0..10), value type derived from it -/
example : tI.wf = true ∧ tJ.noUnionMap = true ∧ assignable false ⟨[], tI⟩ ⟨[], tJ⟩ = true := by decide +kernel
/-- T6: the parent recognises the flattened derived set -/
example : isSuperTypeOf tI tJ = true := subtype_recognised tI _ (by decide +kernel)
example : isSuperTypeOf tJ tI = false := by decide +kernel
/-- a union imposes none of its operands (fix f8fea03): INTEGER (0..10) is not a supertype of
    INTEGER (0..10 | 20..30) -/
example : isSuperTypeOf tI (intersection [union [valueRange 0 10, valueRange 20 30]]) = false := by decide +kernel
example : isSuperTypeOf tI (deriveChain tI [valueRange 1 9, singleValue [.int 3], valueRange 3 3]) = true :=
  chain_recognised tI (by decide +kernel) _
/-- a parent declared with a bare (non-intersection) subtypeSpec: `subtype()` narrows (fix 8df4c27) -/
example : eval (derive (singleValue [.int 1, .int 2, .int 3, .int 6]) (singleValue [.int 7])) none (.atom (.int 7)) = false := by
  decide +kernel
/-- T9: ContainedSubtypeConstraint with plain operands -/
example : eval (containedSubtype (.con (singleValue [.int 1, .int 2, .int 3, .int 6]) (.raw (.int 2) (.raw (.int 18) .nil))))
    none (.atom (.int 2)) = true := by decide +kernel
/-- a leak (size of an int) is a leak, not a rejection -/
example : run (valueSize 1 2) none (.atom (.int 5)) = .leak := by decide +kernel
example : typed (valueSize 1 2) (.atom (.int 5)) = false := by decide +kernel
/-- WITH COMPONENTS (id PRESENT, name ABSENT | id ABSENT, name PRESENT) -/
def tItem : Constr :=
  union [withComponents (.field "id" componentPresent (.field "name" componentAbsent .nil)),
         withComponents (.field "id" componentAbsent (.field "name" componentPresent .nil))]
example : encodeGate tItem (.record [("id", .int 1)]) = .accept := by decide +kernel
example : encodeGate tItem (.record [("id", .int 1), ("name", .bytes [120])]) = .reject := by decide +kernel
example : encodeGate (intersection [valueSize 1 2]) (.coll [.int 0, .int 1, .int 2]) = .reject := by decide +kernel
example : typed tItem (.record [("id", .int 1)]) = true ∧ tItem.wf = true := by decide +kernel
/-- `==` ignores the class; neither the imposed-by test (fix a3e4c68) nor the subtype test (fix 5ea3865) does:
    INTEGER (1 | 5) is not a supertype of INTEGER (1..5) -/
example : pyEq (intersection [singleValue [.int 1, .int 5]]) (intersection [valueRange 1 5]) = true := by decide +kernel
example : isSuperTypeOf (intersection [singleValue [.int 1, .int 5]]) (intersection [valueRange 1 5]) = false := by decide +kernel
example : imposedBy (singleValue [.int 1, .int 5]) (intersection [valueRange 1 5]) = false := by decide +kernel
example : moveSizeSpec (exclusion [valueSize 3 4]) (intersection [valueSize 3 4])
    = intersection [exclusion [valueSize 3 4], intersection [valueSize 3 4]] := by decide +kernel
example : moveSizeSpec (intersection [valueSize 1 1]) (intersection [valueSize 1 5])
    = intersection [intersection [valueSize 1 1], intersection [valueSize 1 5]] := by decide +kernel
/-- assignment of a derived, explicitly tagged value to a field of the parent type -/
example : assignable false ⟨[⟨.universal, false, 2⟩], tI⟩
    ⟨[⟨.universal, false, 2⟩, ⟨.context, true, 0⟩], tJ⟩ = true :=
  assignable_derived _ _ (.explicit .context 0) (some (singleValue [.int 3, .int 4, .int 20]))
    (by decide +kernel) (by intro c n h; cases h) (by decide +kernel)
/-- scalar operations: 7 + 5 leaves INTEGER (0..10), 7 + 3 does not -/
example : (Scalar.applyOp ⟨⟨[], tI⟩, .int 7⟩ (pyAdd 5)).isOk = false := by decide +kernel
example : (Scalar.applyOp ⟨⟨[], tI⟩, .int 7⟩ (pyAdd 3)).isOk = true := by decide +kernel
example : (Scalar.applyOp ⟨⟨[], intersection [valueSize 2 4]⟩, .bytes [97, 98, 99]⟩ (pySlice 0 1)).isOk = false := by
  decide +kernel

/-! ### at the source level: the leaf tests, translated from /repo on this run -/

/-- `ValueRangeConstraint._testValue` (type/constraint.py, translated by gen/py2lean.py into `GenK.rangeTest`; `start`
    and `stop` as parameters) is the model's evaluation of a value range on an integer payload: accepted exactly between
    the bounds, `ValueConstraintError` otherwise -/
theorem source_range_is_model (lo hi z : Int) (i : Option Nat) :
    GenK.rangeTest lo hi z = Kernels.liftRes (run (valueRange lo hi) i (.atom (.int z))) := by
  rw [Kernels.rangeTest_kernel, run_valueRange]

/-- `ValueSizeConstraint._testValue` on an octet payload -/
theorem source_size_is_model (lo hi : Int) (bs : List Nat) (i : Option Nat) :
    GenK.sizeTest lo hi (bs.map Int.ofNat) = Kernels.liftRes (run (valueSize lo hi) i (.atom (.bytes bs))) := by
  rw [Kernels.sizeTest_kernel, run_valueSize]

/-- `SingleValueConstraint._testValue` on an integer payload (a constraint with operands: the operand-less one never
    reaches `_testValue`) -/
theorem source_single_value_is_model (s : List Int) (hs : s ≠ []) (z : Int) (i : Option Nat) :
    GenK.singleValueTest s z = Kernels.liftRes (run (singleValue (s.map Atom.int)) i (.atom (.int z))) := by
  rw [Kernels.singleValueTest_kernel, run_singleValue (mt List.map_eq_nil_iff.mp hs)]

/-- `PermittedAlphabetConstraint._testValue` on an octet payload -/
theorem source_alphabet_is_model (s : List Int) (hs : s ≠ []) (bs : List Nat) (i : Option Nat) :
    GenK.alphabetTest s (bs.map Int.ofNat) =
      Kernels.liftRes (run (permittedAlphabet (s.map Atom.int)) i (.atom (.bytes bs))) := by
  rw [Kernels.alphabetTest_kernel, run_permittedAlphabet (mt List.map_eq_nil_iff.mp hs)]

/-- **the set operations at the source level**: `ConstraintsIntersection._testValue`, `ConstraintsUnion._testValue` and
    `ConstraintsExclusion._testValue` (translated by gen/py2lean.py; the operands are handles, calling one is a callback
    parameter) evaluate, for whatever constraints the handles stand for, to the model's verdict on the intersection / union
    / exclusion of those constraints - which `eval_iff_den` identifies with ⋂, ⋃ and complement -/
theorem source_intersection_is_model (r : Int → Constr) (ks : List Int) (hk : ks ≠ []) (i : Option Nat) (v : CVal) :
    GenK.intersectionTest ks (fun k => Kernels.liftRes (run (r k) i v)) =
      Kernels.liftRes (run (intersection (ks.map r)) i v) :=
  Kernels.intersectionTest_kernel r ks hk i v

theorem source_union_is_model (r : Int → Constr) (ks : List Int) (hk : ks ≠ []) (i : Option Nat) (v : CVal) :
    GenK.unionTest ks (fun k => Kernels.liftRes (run (r k) i v)) = Kernels.liftRes (run (union (ks.map r)) i v) :=
  Kernels.unionTest_kernel r ks hk i v

theorem source_exclusion_is_model (r : Int → Constr) (ks : List Int) (hk : ks ≠ []) (i : Option Nat) (v : CVal) :
    GenK.exclusionTest ks (fun k => Kernels.liftRes (run (r k) i v)) =
      Kernels.liftRes (run (exclusion (ks.map r)) i v) :=
  Kernels.exclusionTest_kernel r ks hk i v

/-- non-vacuity: operands 0 (accepts) and 1 (refuses) -/
example : GenK.unionTest [1, 0] (fun k => if k = 0 then .ok () else .error (.lib "ValueConstraintError")) = .ok () := by rfl
example : GenK.intersectionTest [0, 1] (fun k => if k = 0 then .ok () else .error (.lib "ValueConstraintError")) =
    .error (.lib "ValueConstraintError") := by rfl
example : GenK.exclusionTest [1, 1] (fun k => if k = 0 then .ok () else .error (.lib "ValueConstraintError")) = .ok () := by rfl

example : GenK.rangeTest 0 10 11 = .error (.lib "ValueConstraintError") := by rfl
example : GenK.sizeTest 2 4 [97, 98, 99] = .ok () := by rfl
example : GenK.alphabetTest [97, 98] [97, 99] = .error (.lib "ValueConstraintError") := by rfl

end Asn1.C14
