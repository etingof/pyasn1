/-
  Props.C05 — streaming decoder output is independent of the data arrival schedule.

  Model: Asn1/Stream.lean (`Prog`, `run`, `runSched`, `parseP`, `iterP`, `streamP`).
  A schedule is a list of chunks: an empty chunk is a "no data yet" poll, an empty last chunk is
  end-of-stream signalled after (rather than together with) the last octet.  Short reads are below
  the model's `read n` primitive: `readFromStream` collects what is readily available, so a read
  answers exactly when its n octets have arrived (tied to the code by the STREAM correspondence
  with capped reads).
-/
import Asn1.Generated
import Proofs.StreamIter
import Proofs.StreamRaw
import Proofs.StreamTyped
import Proofs.KernelReadTurn
import Props.C02
import Props.C09

namespace Asn1.C05

open Asn1.Stream

variable {ε α : Type}

/-- **schedule independence, for every program** that does not use the "read whatever is there"
    primitive, on every stream kind whose primitives are stable: feeding the input in any chunks,
    with any polls in between and the end signalled with or after the last octet, ends exactly as
    running on the complete, closed input does — same result or error, same position, same objects
    yielded in the same order. -/
theorem schedule_independent (k : Kind) (hk : k.Stable) (B : Nat) (p : Prog ε α) (hp : p.NoReadAll)
    (chunks : List Bytes) (s : St ε) :
    runSched k B [] chunks p s = run k B chunks.flatten true p s := by
  simpa using runSched_eq k hk B chunks [] p s hp

/-- stability of each primitive on K3 (seekable growing stream) … -/
theorem stable_K3 : Kind.Stable .seekable := stable_seekable
/-- … and on K4 (non-seekable stream behind CachingStreamWrapper) -/
theorem stable_K4 : Kind.Stable .wrapped := stable_wrapped

/-- the BytesIO kinds (K1, K2) are complete at construction: their end-of-stream fast path
    (`tell() == end`) answers at once, and the answer would change if the buffer grew — which is why a
    growing BytesIO subclass is outside the quantifier (the BytesIO subclass of
    RestartableDecoderTestCase holds all its data from the start) -/
theorem bytesIO_complete_only : ¬ Kind.Stable .bytesIO := by
  intro h
  have := h.eos [] [0] true 0 (by simp [eosAns])
  simp [eosAns] at this

/-- **an underrun is reported only while octets are missing**: when a run suspends, the pending
    primitive needs an octet at a position that has not arrived, and the stream is still open -/
theorem underrun_only_when_missing (k : Kind) (B : Nat) (d : Bytes) (cl : Bool) (p p' : Prog ε α)
    (s s' : St ε) (h : run k B d cl p s = .susp p' s') :
    d.length < p'.needs s' ∧ cl = false ∧ k ≠ .bytesIO :=
  (susp_inv k B d cl p s p' s' h).2

/-- **short reads are invisible**: `readFromStream` over raw `read()` calls each of which may hand
    out any non-zero number of the octets that are there (`capOf` arbitrary: pipes, sockets, capped
    reads) answers exactly as the model's `read n` primitive — the n octets once they have all arrived,
    an underrun while the stream is open, EndOfStreamError once it is closed.  So the schedule theorem,
    stated over `read n`, covers every placement of short reads. -/
theorem short_reads_invisible (k : Kind) (hk : k ≠ .bytesIO) (d : Bytes) (closed : Bool)
    (capOf : Nat → Nat) (pos n : Nat) (hp : pos ≤ d.length) :
    readFromStreamRaw d closed capOf pos n = readAns k d closed pos n :=
  readFromStreamRaw_eq_readAns k hk d closed capOf pos n hp

/-! ### at the source level: one turn of `readFromStream`, translated from /repo on this run -/

/-- one turn of the `while True:` loop of `readFromStream` (codec/streaming.py; translated by gen/py2lean.py into
    `GenK.readTurn`: the stream's position threaded through, what `substrate.read(n)` answers at a position a function
    parameter) on a raw stream that has received `d`, is `closed` or still open, and hands out at most `cap + 1` octets per
    call, is the model's `readFromStreamRaw` -/
theorem source_read_turn_is_model (d : Bytes) (closed : Bool) (cap pos n : Nat) (hn : n ≤ 1048576) (hp : pos ≤ d.length) :
    GenK.readTurn (Kernels.rdOf d closed cap) (pos : Int) (n : Int) =
      Kernels.liftAns pos (readFromStreamRaw d closed (fun _ => cap) pos n) :=
  Kernels.readTurn_kernel d closed cap pos n hn hp

/-- **underrun only while octets are missing, at the source level**: on any stream kind other than a complete `BytesIO`,
    whatever the sizes of the short reads, the translated turn hands out the `n` octets exactly when they have all
    arrived (the position moves past them), answers an underrun - the position back where the turn began - exactly
    while they have not and the stream is open, and raises EndOfStreamError exactly once it is closed -/
theorem source_underrun_only_when_missing (k : Kind) (hk : k ≠ .bytesIO) (d : Bytes) (closed : Bool) (cap pos n : Nat)
    (hn : n ≤ 1048576) (hp : pos ≤ d.length) :
    GenK.readTurn (Kernels.rdOf d closed cap) (pos : Int) (n : Int) =
      Kernels.liftAns pos (readAns k d closed pos n) := by
  rw [Kernels.readTurn_kernel d closed cap pos n hn hp, readFromStreamRaw_eq_readAns k hk d closed _ pos n hp]

/-- `isEndOfStream` (the branch for streams other than `io.BytesIO`; one turn of its retry loop, translated into
    `GenK.eosTurn`): "at the end" exactly when nothing is left and the stream is closed, an underrun exactly when nothing is
    left and it is still open, "not at the end" with the octet stepped back over otherwise - the model's `eosAns`; the
    iteration `stops` after the last object on exactly this answer -/
theorem source_end_of_stream_turn_is_model (k : Kind) (hk : k ≠ .bytesIO) (d : Bytes) (closed : Bool) (cap pos : Nat) :
    GenK.eosTurn (Kernels.rdOf d closed cap) (pos : Int) = Kernels.liftEos pos (eosAns k d closed pos) :=
  Kernels.eosTurn_kernel k hk d closed cap pos

/-- non-vacuity: four octets asked at position 1 of `1 2 3 4 5 6`, two octets per read: gathered over two reads; of
    `1 2 3` still open: underrun, position back at 1; closed: EndOfStreamError -/
example : GenK.readTurn (Kernels.rdOf [1, 2, 3, 4, 5, 6] false 1) 1 4 = .ok (some [2, 3, 4, 5], 5) := by rfl
example : GenK.readTurn (Kernels.rdOf [1, 2, 3] false 1) 1 4 = .ok (none, 1) := by rfl
example : GenK.readTurn (Kernels.rdOf [1, 2, 3] true 1) 1 4 = .error (.lib "EndOfStreamError") := by rfl
example : GenK.eosTurn (Kernels.rdOf [1, 2, 3] true 1) 3 = .ok (some true, 3) := by rfl
example : GenK.eosTurn (Kernels.rdOf [1, 2, 3] false 1) 3 = .ok (none, 3) := by rfl
example : GenK.eosTurn (Kernels.rdOf [1, 2, 3] false 1) 1 = .ok (some false, 1) := by rfl

/-- **no new errors**: an error under a schedule is the error of the complete input -/
theorem no_new_errors (k : Kind) (hk : k.Stable) (B : Nat) (p : Prog ε α) (hp : p.NoReadAll)
    (chunks : List Bytes) (s s' : St ε) (e : SErr)
    (h : runSched k B [] chunks p s = .err e s') : run k B chunks.flatten true p s = .err e s' := by
  rw [← schedule_independent k hk B p hp chunks s]; exact h

/-- an outcome reached while octets are still arriving is final (nothing is lost or redone later) -/
theorem early_outcome_final (k : Kind) (hk : k.Stable) (B : Nat) (a c : Bytes) (cl : Bool)
    (p : Prog ε α) (hp : p.NoReadAll) (s : St ε) :
    (∀ v s', run k B a false p s = .done v s' → run k B (a ++ c) cl p s = .done v s') ∧
    (∀ e s', run k B a false p s = .err e s' → run k B (a ++ c) cl p s = .err e s') := by
  have h := run_resume k hk B a c cl p hp s
  exact ⟨fun v s' hr => by rw [h, hr], fun e s' hr => by rw [h, hr]⟩

/-- what the consumer of the iterator sees: underruns, then the final outcome -/
theorem consumer_view (k : Kind) (B : Nat) (chunks : List Bytes) (p : Prog ε α) (s : St ε) :
    ∃ pre, runSchedAll k B [] chunks p s = pre ++ [runSched k B [] chunks p s] ∧
      ∀ o ∈ pre, ∃ p' s', o = .susp p' s' :=
  runSchedAll_last k B chunks [] p s

/-- the streaming decoder over the framing layer is such a program -/
theorem streaming_decoder_schedulable (cfg : ParseCfg) (n : Nat) : (streamP cfg n).NoReadAll :=
  noReadAll_streamP cfg n

/-- **refinement**: where the list-level parser `parse` (about which Proofs/Parse.lean,
    Prefix.lean, Fuel.lean speak) succeeds on the octets at the current position, the stream
    program `parseP` returns the same tree and stops where `parse` stopped -/
theorem parseP_refines_parse (cfg : ParseCfg) (k : Kind) (B : Nat) (d : Bytes) (cl : Bool) (tf fuel : Nat)
    (hnd : NoDropK k B d) (bs : Bytes) (t : TLV) (r : Bytes) (h : parse cfg fuel bs = .ok (t, r))
    (htf : bs.length ≤ tf) (extra : Bytes) (s : St ε) (hat : At d s.pos (bs ++ extra)) (hb : s.base = 0) :
    ∃ s', run k B d cl (parseP cfg tf fuel) s = .done t s' ∧ At d s'.pos (r ++ extra) ∧
      s'.base = 0 ∧ s'.out = s.out :=
  run_parseP cfg k B d cl tf hnd fuel bs t r h htf extra s hat hb

/-- **the items of a stream of well-formed elements are yielded one by one under any schedule**:
    for every non-empty list of well-formed TLV trees (any tags, length forms, nesting, size), every
    partition of their concatenation into chunks with any polls and either close timing, on K3 —
    and on K4 as long as the stream fits the wrapper's buffer (S4 otherwise, see Props/C11) — the
    iterator yields exactly these elements in order, each ending where its encoding ends, and stops
    at the end of the data. -/
theorem stream_items_any_schedule (cfg : ParseCfg) (k : Kind) (hk : k.Stable) (B : Nat) (ts : List TLV)
    (hne : ts ≠ []) (hw : WFs ts) (ho : okForL cfg ts) (hnd : NoDropK k B (serList ts))
    (chunks : List Bytes) (hc : chunks.flatten = serList ts) :
    ∃ s', runSched k B [] chunks (streamP cfg (serList ts).length) {} = .done () s' ∧
      s'.pos = (serList ts).length ∧ s'.out = (ends 0 ts).reverse := by
  rw [schedule_independent k hk B _ (noReadAll_streamP cfg _) chunks, hc]
  exact run_streamP_items cfg k B ts hne hw ho hnd

/-! ### the typed end: what was encoded is what is yielded, under any schedule -/

/-- the trees a streaming run emitted, in order -/
def emitted (s : St (TLV × Nat)) : List TLV := s.out.reverse.map (·.1)

theorem ends_fst : ∀ (p : Nat) (ts : List TLV), (ends p ts).map (·.1) = ts
  | _, [] => rfl
  | p, t :: ts => by simp [ends, ends_fst _ ts]

/-- **a stream of encoded values is decoded to those values under any arrival schedule** (any encoder /
    decoder pair with a common profile; types of the codec region).  The values `vs` of type `t` are
    encoded one after the other; the octets arrive in any chunks, with any "no data yet" polls, the end
    signalled with or after the last octet, on a growing seekable stream (K3) — and on a non-seekable
    stream behind the caching wrapper (K4) as long as the stream fits its buffer (finding S4 otherwise).
    Then the streaming decoder stops normally at the end of the data, having yielded exactly as many
    elements as values were encoded, and the guided decoder reads the i-th element as the i-th value
    (up to the order of SET OF elements). -/
theorem stream_values_any_schedule (cfg : EncCfg) (dcfg : DecCfg) (pf : Profile) (o : EncOpts) (hi : o.ifNotEmpty = false)
    (hR : EncRegion cfg pf (cfg.fixedChunk.getD o.maxChunk)) (hC : Compat pf dcfg)
    (hparse : cfg.fixedDefMode.getD o.defMode = true ∨ dcfg.parse.allowIndef = true)
    (t : Ty) (hreg : t.reg true cfg (cfg.fixedDefMode.getD o.defMode) = true) (hwf : t.WF = true)
    (vs : List Val) (hne : vs ≠ []) (hv : ∀ v ∈ vs, HasType t v = true ∧ noE3 cfg.seqOmitEmpty t v = true)
    (bs : List Bytes) (henc : encodeAll cfg o t vs = .ok bs)
    (k : Kind) (hk : k.Stable) (B : Nat) (hnd : NoDropK k B bs.flatten)
    (chunks : List Bytes) (hc : chunks.flatten = bs.flatten) :
    ∃ s', runSched k B [] chunks (streamP dcfg.parse bs.flatten.length) {} = .done () s' ∧
      s'.pos = bs.flatten.length ∧ Decoded dcfg t vs (emitted s') := by
  obtain ⟨xs, hs, hl, hw, hdef, hd⟩ := encodeAll_trees cfg dcfg pf o hi hR hC t hreg hwf vs bs hv henc
  have hxne : xs ≠ [] := by
    intro h0; subst h0
    cases vs with
    | nil => exact hne rfl
    | cons _ _ => simp at hl
  have hok : okForL dcfg.parse xs := hparse.symm.imp_right hdef
  rw [hs] at hnd hc ⊢
  obtain ⟨s', hrun, hpos, hout⟩ := stream_items_any_schedule dcfg.parse k hk B xs hxne hw hok hnd chunks hc
  refine ⟨s', hrun, hpos, ?_⟩
  simp only [emitted, hout, List.reverse_reverse, ends_fst]
  exact hd

/-! instances: DER-encoded values streamed to the DER decoder; BER-encoded values (any mode) to the BER decoder -/

theorem stream_values_der (o : EncOpts) (hi : o.ifNotEmpty = false) (t : Ty)
    (hreg : t.reg true Generated.derEnc true = true) (hwf : t.WF = true)
    (vs : List Val) (hne : vs ≠ []) (hv : ∀ v ∈ vs, HasType t v = true ∧ noE3 true t v = true)
    (bs : List Bytes) (henc : encodeAll Generated.derEnc o t vs = .ok bs)
    (k : Kind) (hk : k.Stable) (B : Nat) (hnd : NoDropK k B bs.flatten) (chunks : List Bytes) (hc : chunks.flatten = bs.flatten) :
    ∃ s', runSched k B [] chunks (streamP Generated.derDecByType.parse bs.flatten.length) {} = .done () s' ∧
      s'.pos = bs.flatten.length ∧ Decoded Generated.derDecByType t vs (emitted s') :=
  stream_values_any_schedule Generated.derEnc Generated.derDecByType derProfile o hi (C02.der_region o)
    C02.der_profile_all_decoders.1 (Or.inl rfl) t hreg hwf vs hne hv bs henc k hk B hnd chunks hc

theorem stream_values_ber (o : EncOpts) (hi : o.ifNotEmpty = false) (t : Ty)
    (hreg : t.reg true Generated.berEnc o.defMode = true) (hwf : t.WF = true)
    (vs : List Val) (hne : vs ≠ []) (hv : ∀ v ∈ vs, HasType t v = true)
    (bs : List Bytes) (henc : encodeAll Generated.berEnc o t vs = .ok bs)
    (k : Kind) (hk : k.Stable) (B : Nat) (hnd : NoDropK k B bs.flatten) (chunks : List Bytes) (hc : chunks.flatten = bs.flatten) :
    ∃ s', runSched k B [] chunks (streamP Generated.berDecByType.parse bs.flatten.length) {} = .done () s' ∧
      s'.pos = bs.flatten.length ∧ Decoded Generated.berDecByType t vs (emitted s') :=
  stream_values_any_schedule Generated.berEnc Generated.berDecByType berProfile o hi
    { boolT := by decide, chunk := Or.inr rfl, setOmit := Or.inl rfl } C09.ber_compat (Or.inr rfl) t hreg hwf vs hne
    (fun v h => ⟨hv v h, noE3_false t v⟩) bs henc k hk B hnd chunks hc

/-! ### obligations over the generated audit tables -/

/-- every `for x in <sub-generator>` loop of the decoder modules forwards underruns -/
theorem underrun_loops_forward : Generated.underrunLoops.all (·.2.2.2) = true := by decide +kernel

/-- every stream access in the decoder modules is one of the modelled primitives -/
theorem stream_access_modelled :
    Generated.streamAccess.all (fun r => r.2.2 ∈
      ["readFromStream", "peekIntoStream", "isEndOfStream", "substrate.tell", "substrate.seek",
       "substrate.markedPosition"]) = true := by decide +kernel

/-- the schedule-unstable primitives (`readFromStream` without a size, `peekIntoStream`) are used
    only inside debug-logging branches and by the one-shot `Decoder.__call__`, which runs on a
    complete input -/
theorem unstable_only_oneshot_or_log :
    Generated.unstableSites.all (fun r => r.2.2.2 || r.2.1 == "Decoder.__call__") = true := by decide +kernel

/-- end-of-stream is an insufficient-data error, which is a library error -/
theorem error_hierarchy :
    ("EndOfStreamError", "SubstrateUnderrunError") ∈ Generated.errorSubclass ∧
    ("SubstrateUnderrunError", "PyAsn1Error") ∈ Generated.errorSubclass := by decide +kernel

/-- INTEGER 5 followed by NULL, fed as `02 | (poll) | 01 05 05 | 00 | (close after)`: two objects
    ending at 3 and 5, then stop — and the same on the complete input -/
example : (runSched .seekable 8192 [] [[0x02], [], [0x01, 0x05, 0x05], [0x00], []]
    (streamP {} 5) {}).summary = (.done, 5, [3, 5]) := by decide +kernel
example : (run .seekable 8192 [0x02, 0x01, 0x05, 0x05, 0x00] true (streamP {} 5) {}).summary =
    (.done, 5, [3, 5]) := by decide +kernel
/-- an indefinite-length SEQUENCE split inside its end-of-octets marker, behind the wrapper -/
example : (runSched .wrapped 8192 [] [[0x30, 0x80, 0x02, 0x01, 0x05, 0x00], [0x00]]
    (streamP {} 7) {}).summary = (.done, 7, [7]) := by decide +kernel
/-- the stream still open in the middle of an element: an underrun, nothing yielded yet -/
example : (run .seekable 8192 [0x02, 0x01] false (streamP {} 5) {}).summary = (.susp, 2, []) := by decide +kernel
/-- six octets wanted, the raw stream hands out one octet per call: all six come back; only four there
    and open: underrun; closed: end of stream -/
example : readFromStreamRaw [1, 2, 3, 4, 5, 6, 7] false (fun _ => 0) 1 6 = .ok [2, 3, 4, 5, 6, 7] := by decide +kernel
example : readFromStreamRaw [1, 2, 3, 4, 5] false (fun _ => 0) 1 6 = .wait := by decide +kernel
example : readFromStreamRaw [1, 2, 3, 4, 5] true (fun i => i % 3) 1 6 = .eos := by decide +kernel
/-- closed there: EndOfStreamError -/
example : (run .seekable 8192 [0x02, 0x01] true (streamP {} 5) {}).summary = (.err .eos, 2, []) := by decide +kernel

/-- the hypotheses of `stream_items_any_schedule` are satisfiable: a well-formed two-item stream -/
example : WFs [TLV.prim [0x02, 0x01] ⟨.universal, false, 2⟩ [5], TLV.prim [0x05, 0x00] ⟨.universal, false, 5⟩ []] := by
  refine ⟨⟨⟨[0x02], [0x01], rfl, ?_, ?_⟩, rfl⟩, ⟨⟨[0x05], [0x00], rfl, ?_, ?_⟩, rfl⟩, trivial⟩
  all_goals intro r; rfl

end Asn1.C05
