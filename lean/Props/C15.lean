/-
  Props.C15 — DER/CER decoders enforce the canonical restrictions they implement, everywhere.
-/
import Asn1.Generated
import Proofs.Parse
import Proofs.StrictEverywhere
import Proofs.KernelLen

namespace Asn1.C15

/-- the codec rows the source installs — by tag **and** by type id — are the strict ones
    (generated tables; before /repo commit 69bccc9 the CER and DER modules never installed their strict
    codecs for lookups by type id) -/
theorem der_rows_strict :
    Generated.derDecByType.parse.allowIndef = false ∧ Generated.derDecByTag.parse.allowIndef = false ∧
    Generated.derDecByType.boolStrict = true ∧ Generated.derDecByTag.boolStrict = true ∧
    Generated.derDecByType.consBits = false ∧ Generated.derDecByTag.consBits = false ∧
    Generated.derDecByType.consStr = [] ∧ Generated.derDecByTag.consStr = [] := by
  decide

theorem cer_rows_strict :
    Generated.cerDecByType.boolStrict = true ∧ Generated.cerDecByTag.boolStrict = true := by
  decide

theorem parsers_allDef (cfg : ParseCfg) (hc : cfg.allowIndef = false) : ∀ f : Nat,
    (∀ bs t rest, parse cfg f bs = .ok (t, rest) → t.allDef = true) ∧
    (∀ bs cs, parseAll cfg f bs = .ok cs → allDefL cs = true) := fun f =>
  -- nothing is claimed of `parseUntilEoo`, which `parse` does not call when indefinite lengths are refused
  have h := parsers_ok_induct cfg (P := fun _ _ t _ => t.allDef = true)
    (A := fun _ _ cs => allDefL cs = true) (U := fun _ _ _ _ => True)
    (prim := fun _ _ _ _ => rfl)
    (consDef := fun _ _ _ _ ih => by rw [TLV.allDef, ih]; rfl)
    (consIndef := fun _ _ hi _ _ => by rw [hc] at hi; cases hi)
    (nil := fun _ => rfl)
    (cons := fun _ _ ihp iha => by rw [allDefL, ihp, iha]; rfl)
    (eoo := fun _ _ => trivial)
    (more := fun _ _ _ _ _ => trivial) f
  ⟨h.1, h.2.1⟩

/-- a decoder without indefinite-length support never delivers a tree containing an indefinite
    length, at any depth: for **all** inputs -/
theorem parse_allDef (cfg : ParseCfg) (hc : cfg.allowIndef = false) :
    ∀ (f : Nat) (bs : Bytes) (t : TLV) (rest : Bytes), parse cfg f bs = .ok (t, rest) → t.allDef = true :=
  fun f => (parsers_allDef cfg hc f).1
theorem parseAll_allDef (cfg : ParseCfg) (hc : cfg.allowIndef = false) :
    ∀ (f : Nat) (bs : Bytes) (cs : List TLV), parseAll cfg f bs = .ok cs → allDefL cs = true :=
  fun f => (parsers_allDef cfg hc f).2

/-- **DER rejects indefinite lengths everywhere**: whatever the input, whatever the guiding type,
    if the DER decoder model returns a value, the element it consumed has no indefinite length at
    any depth -/
theorem der_rejects_indefinite (ty : Ty) (bs : Bytes) (v : Val) (rest : Bytes)
    (h : decodeOne Generated.derDecByType ty bs = .ok (v, rest)) :
    ∃ t, parseOne Generated.derDecByType.parse bs = .ok (t, rest) ∧ t.allDef = true := by
  obtain ⟨x, hp, _⟩ := decodeOne_ok.mp h
  exact ⟨x, hp, parse_allDef _ (by decide) _ bs x rest hp⟩

/-- **no constructed strings under DER**, for every string kind and BIT STRING: the payload decoder
    rejects a constructed element in a string position (every string-typed position of any type, at
    any depth and under any tagging, is decoded through `decPrim`) -/
theorem der_rejects_constructed_strings (k : Nat) (h : Bytes) (tg : Tag) (i : Bool) (cs : List TLV) :
    decPrim Generated.derDecByType (.str k) (.cons h tg i cs) = .error .malformed ∧
    decPrim Generated.derDecByType .bitString (.cons h tg i cs) = .error .malformed ∧
    decPrim Generated.derDecByTag (.str k) (.cons h tg i cs) = .error .malformed ∧
    decPrim Generated.derDecByTag .bitString (.cons h tg i cs) = .error .malformed := by
  refine ⟨?_, ?_, ?_, ?_⟩ <;> simp [decPrim, Generated.derDecByType, Generated.derDecByTag]

/-- **strict BOOLEAN under CER and DER**: an accepted BOOLEAN has contents exactly 00 or FF -/
theorem strict_boolean (cfg : DecCfg) (hs : cfg.boolStrict = true) (h : Bytes) (tg : Tag) (c : Bytes)
    (v : Val) (hd : decPrim cfg .boolean (.prim h tg c) = .ok v) :
    (c = [0x00] ∧ v = .bool false) ∨ (c = [0xFF] ∧ v = .bool true) :=
  (decPrim_bool_strict hs).mp hd

theorem strict_boolean_cer_der (h : Bytes) (tg : Tag) (c : Bytes) (v : Val) :
    (decPrim Generated.cerDecByType .boolean (.prim h tg c) = .ok v →
      (c = [0x00] ∧ v = .bool false) ∨ (c = [0xFF] ∧ v = .bool true)) ∧
    (decPrim Generated.derDecByType .boolean (.prim h tg c) = .ok v →
      (c = [0x00] ∧ v = .bool false) ∨ (c = [0xFF] ∧ v = .bool true)) :=
  ⟨strict_boolean _ (by decide) h tg c v, strict_boolean _ (by decide) h tg c v⟩

/-- **the strict BOOLEAN decoder, at the source level**: the body of `cer.decoder.BooleanPayloadDecoder.valueDecoder`
    (translated from the working tree on this run into `GenK.cerBool`; the octets its stream read delivers are the
    argument) answers exactly when the contents are the single octet `00` or `FF` - whatever their length -/
theorem source_strict_boolean (c : Bytes) (r : Int) (h : GenK.cerBool (c.length : Int) (Kernels.bytesInts c) = .ok r) :
    (c = [0x00] ∧ r = 0) ∨ (c = [0xFF] ∧ r = 1) := by
  rw [Kernels.cerBool_kernel Generated.derDecByType (by decide) [] ⟨.universal, false, 1⟩ c] at h
  cases hd : decPrim Generated.derDecByType .boolean (.prim [] ⟨.universal, false, 1⟩ c) with
  | error e => rw [hd] at h; simp [Kernels.liftBool] at h
  | ok v =>
    rcases strict_boolean _ (by decide) _ _ c v hd with ⟨hc, hv⟩ | ⟨hc, hv⟩
    · subst hv; rw [hd] at h; simp only [Kernels.liftBool, Except.ok.injEq] at h; exact Or.inl ⟨hc, h.symm⟩
    · subst hv; rw [hd] at h; simp only [Kernels.liftBool, Except.ok.injEq] at h; exact Or.inr ⟨hc, h.symm⟩

example : GenK.cerBool 1 [255] = .ok 1 := by rfl
example : GenK.cerBool 2 [255, 0] = .error (.lib "PyAsn1Error") := by rfl
example : GenK.cerBool 1 [1] = .error (.lib "PyAsn1Error") := by rfl

/-! ### wherever the offending element occurs

`Rep P x x'` (Proofs/StrictEverywhere.lean): `x'` is the element `x` with one sub-element at any depth —
under any number of explicit or implicit tags, as a SEQUENCE or SET member behind skipped
OPTIONAL/DEFAULT members, as a SEQUENCE OF / SET OF element, as a CHOICE alternative — replaced. -/

/-- **DER rejects a constructed encoding wherever a primitive one was accepted** — in particular a
    segmented string of any string type or BIT STRING in place of the primitive one — at top level or
    at any nesting depth, under any tagging, for every guiding type without ANY: if the DER decoder
    accepts `x`, it rejects every `x'` obtained by re-writing one primitive element of `x` in
    constructed form with the same identifier class and number. -/
theorem der_rejects_constructed_everywhere (t : Ty) (x x' : TLV) (v : Val)
    (hg : Ty.good false t = true) (hr : Rep PrimToCons x x')
    (h : decTy Generated.derDecByType t x = .ok v) :
    ∃ e, decTy Generated.derDecByType t x' = .error e :=
  (rep_rej Generated.derDecByType false PrimToCons
    (fun y y' hp => primToCons_rej Generated.derDecByType (by decide) y y' hp) hr).ty t hg v h

/-- the same on octets: what the DER decoder returns for the re-written encoding is an error -/
theorem der_rejects_constructed_everywhere_bytes (t : Ty) (x x' : TLV) (v : Val) (tail : Bytes)
    (hg : Ty.good false t = true) (hr : Rep PrimToCons x x') (hw : x'.WF) (hd : x'.allDef = true)
    (h : decTy Generated.derDecByType t x = .ok v) :
    ∃ e, decodeOne Generated.derDecByType t (x'.ser ++ tail) = .error e := by
  obtain ⟨e, he⟩ := der_rejects_constructed_everywhere t x x' v hg hr h
  exact ⟨e, by rw [decodeOne_ser _ t x' tail hw (Or.inr hd), he]; rfl⟩

/-- **CER and DER reject BOOLEAN contents other than 00 and FF wherever the BOOLEAN occurs**
    (identifier `[UNIVERSAL 1]`: untagged or under explicit tags, at any depth), for every guiding
    type without ANY and without an IMPLICIT tag of class UNIVERSAL: if the decoder accepts `x`, it
    rejects every `x'` obtained by replacing the contents of one `[UNIVERSAL 1]` element. -/
theorem strict_boolean_everywhere_partial (t : Ty) (x x' : TLV) (v : Val)
    (hg : Ty.good true t = true) (hr : Rep BadBool x x') :
    (decTy Generated.cerDecByType t x = .ok v → ∃ e, decTy Generated.cerDecByType t x' = .error e) ∧
    (decTy Generated.derDecByType t x = .ok v → ∃ e, decTy Generated.derDecByType t x' = .error e) :=
  ⟨fun h => (rep_rej Generated.cerDecByType true BadBool
      (fun y y' hp => badBool_rej Generated.cerDecByType (by decide) y y' hp) hr).ty t hg v h,
   fun h => (rep_rej Generated.derDecByType true BadBool
      (fun y y' hp => badBool_rej Generated.derDecByType (by decide) y y' hp) hr).ty t hg v h⟩

/-- the premises are met: a primitive UTF8String two levels down (SEQUENCE member under an explicit tag,
    after a skipped OPTIONAL member) re-written in constructed form; the DER decoder accepts the first
    tree -/
example :
    let t : Ty := .seq (.cons .opt (.prim .integer) (.cons .req (.tagged true .context 0 (.prim (.str 12))) .nil))
    let y : TLV := .prim [0x0c, 0x01] ⟨.universal, false, 12⟩ [0x61]
    let y' : TLV := .cons [0x2c, 0x03] ⟨.universal, true, 12⟩ false [.prim [0x04, 0x01] ⟨.universal, false, 4⟩ [0x61]]
    let x : TLV := .cons [0x30, 0x05] ⟨.universal, true, 16⟩ false [.cons [0xa0, 0x03] ⟨.context, true, 0⟩ false [y]]
    let x' : TLV := .cons [0x30, 0x07] ⟨.universal, true, 16⟩ false [.cons [0xa0, 0x05] ⟨.context, true, 0⟩ false [y']]
    Ty.good false t = true ∧ Rep PrimToCons x x' ∧
      decTy Generated.derDecByType t x = .ok (.seq [.absent, .str [0x61]]) := by
  refine ⟨by decide, ?_, ?_⟩
  · exact .child (pre := []) (post := []) (.child (pre := []) (post := [])
      (.here ⟨_, _, _, _, _, _, _, rfl, rfl, rfl, rfl⟩))
  · simp [decTy, decBody, decFields, decPrim, Ty.accepts, Ty.outerTags, Ty.tags, PrimTy.univNum, Tag.same,
      TLV.tag, Except.map]

/-- **the indefinite-length marker is refused at the source level**: the translated `stDecodeLength` block with
    `supportIndefLength = False` (what the DER `SingleItemDecoder` declares; `Generated` carries the flag) raises the
    library's error on the first length octet `80`, whatever follows - and with the flag on (BER, CER) answers -1 -/
theorem source_der_refuses_indefinite_length (enc : Py.Tup) :
    GenK.decodeLength false 128 enc = .error (.lib "PyAsn1Error") ∧ GenK.decodeLength true 128 enc = .ok (-1) :=
  ⟨rfl, rfl⟩

/-- and under that flag the block never answers a negative length: whatever it accepts - any first octet, any octets
    after it - is a definite length -/
theorem source_der_lengths_are_definite (b : UInt8) (rest : Bytes) (r : Int)
    (h : GenK.decodeLength false (b.toNat : Int) (Kernels.bytesInts (rest.take (b.toNat % 128))) = .ok r) : 0 ≤ r := by
  rw [Kernels.decodeLength_kernel false b rest] at h
  cases hd : decodeLength (b :: rest) with
  | error e => rw [hd] at h; simp [Kernels.liftDecLen] at h
  | ok p =>
    obtain ⟨l, rem⟩ := p
    rw [hd] at h
    cases l with
    | definite n =>
      simp only [Kernels.liftDecLen] at h
      split at h
      · simp at h
      · simp only [Except.ok.injEq] at h
        omega
    | indefinite => simp [Kernels.liftDecLen] at h

example : GenK.decodeLength false 0x81 [0x05] = .ok 5 := by rfl

end Asn1.C15
