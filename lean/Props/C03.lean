/-
  Props.C03 — encoder output equals the X.690 encoding computed by an independent reference: header and
  contents octets of the model, then of the kernels translated from the source, are those of `Asn1.X690`; the whole
  DER encoder writes `X690.der`; every codec keeps its length form at every depth.
-/
import Asn1.Generated
import Asn1.X690
import Proofs.TagLen
import Proofs.X690Prim
import Proofs.X690Der
import Proofs.Kernels
import Proofs.KernelReal
import Proofs.KernelWrap
import Proofs.EncSpec
import Proofs.KernelSort

namespace Asn1.C03

/-- identifier octets: the encoder's octets are read back as the tag, for every class/format/number -/
theorem encodeTag_spec (t : Tag) (isConstructed : Bool) (rest : Bytes) :
    decodeTag (encodeTag t isConstructed ++ rest)
      = .ok (⟨t.cls, t.constructed || isConstructed, t.num⟩, rest) :=
  decodeTag_encodeTag t isConstructed rest

/-- length octets: short form below 128, otherwise the long form, read back as the length -/
theorem encodeLength_spec (n : Nat) (l : Bytes) (h : encodeLength n = some l) (rest : Bytes) :
    decodeLength (l ++ rest) = .ok (.definite n, rest) :=
  decodeLength_encodeLength n l h rest

/-- the short form is used below 128 (boundary 127/128) -/
theorem encodeLength_short (n : Nat) (h : n < 128) : encodeLength n = some [UInt8.ofNat n] :=
  if_pos h

/-- the DER modes fixed in the source: definite lengths, no chunking, TRUE = FF, sorted SET OF,
    dynamic SET order (generated table) -/
theorem der_table :
    Generated.derEnc.fixedDefMode = some true ∧ Generated.derEnc.fixedChunk = some 0 ∧
    Generated.derEnc.boolTrue = 255 ∧ Generated.derEncBoolFalse = 0 ∧
    Generated.derEnc.sortSetOf = true ∧ Generated.derEnc.setOrder = .dynamic := by
  decide

/-- identifier octets (X.690 8.1.2), every class, form and tag number -/
theorem identifier_is_x690 (t : Tag) (isConstructed : Bool) :
    encodeTag t isConstructed = X690.ident t.cls (t.constructed || isConstructed) t.num :=
  (ident_eq t isConstructed).symm

/-- definite length octets in the fewest octets (X.690 8.1.3, 10.1), every length the encoder accepts -/
theorem length_is_x690 (n : Nat) (l : Bytes) (h : encodeLength n = some l) : l = X690.len n :=
  (len_eq n l h).symm

/-- INTEGER / ENUMERATED contents: two's complement in the fewest octets (X.690 8.3), every integer -/
theorem integer_is_x690 (z : Int) : intToBytes z = X690.intOctets z := (intOctets_eq z).symm

/-- BIT STRING contents: unused-bit count, bits from the top, unused bits zero (X.690 8.6, 11.2) -/
theorem bitstring_is_x690 (bs : List Bool) : bitsToContent bs = X690.bitOctets bs := (bitOctets_eq bs).symm

/-- OBJECT IDENTIFIER contents and the arcs refused (X.690 8.19) -/
theorem oid_is_x690 (arcs : List Nat) : oidToContent arcs = X690.oidOctets arcs := (oidOctets_eq arcs).symm

/-- REAL, binary encoding base 2 with odd mantissa and minimal exponent (X.690 8.5, 11.3) -/
theorem real_is_x690 (m e : Int) : realBinToContent m e = X690.realOctets (.fin m 2 e) := (realOctets_eq m e).symm

theorem der_cfg : DerCfg Generated.derEnc := ⟨by decide, by decide, by decide, by decide⟩

/-- **the DER encoder's output is the X.690 distinguished encoding**, for every type of the region
    (no ANY; REAL in base 2), every value of the type to which finding E3 (a present OPTIONAL member
    with empty contents is left out) does not apply, whatever options the caller passes:
    headers in the minimal definite form, minimal contents, FF for TRUE, DEFAULT-valued members
    absent, SET members in canonical tag order, SET OF elements in ascending order of their
    encodings — as computed by `X690.der`, which shares no code with the encoder model. -/
theorem der_encoder_is_x690 (o : EncOpts) (hi : o.ifNotEmpty = false) (t : Ty) (v : Val) (b : Bytes)
    (hreg : t.reg true Generated.derEnc true = true) (hwf : t.WF = true) (hty : HasType t v = true)
    (hn : noE3 true t v = true) (h : encItem Generated.derEnc o t v = .ok b) :
    X690.der t v = some b :=
  der_is_x690 Generated.derEnc der_cfg o rfl rfl hi t v b hreg hwf hty hn h

/-- the hypotheses are met by a SET with a DEFAULT member equal to its default, an explicitly and an
    implicitly tagged member out of tag order, and a SET OF with elements out of order -/
example :
    let t : Ty := .set (.cons .req (.tagged true .context 5 (.prim .boolean))
      (.cons (.dflt (.int 7)) (.prim .integer)
        (.cons .req (.tagged false .application 1 (.setOf (.prim (.str 4)))) .nil)))
    let v : Val := .seq [.bool true, .int 7, .seqOf [.str [9, 9], .str [1]]]
    t.reg true Generated.derEnc true = true ∧ t.WF = true ∧ HasType t v = true ∧ noE3 true t v = true := by
  decide +kernel

/-- whatever an encoder of the region writes under the options `normOpts` leaves it is the serialisation of a
    well-formed tree - an encoding of the value under the profile - whose every node has the length form of the mode -/
theorem length_form_everywhere {cfg : EncCfg} {pf : Profile} {dm : Bool} {mc : Nat} (hR : EncRegion cfg pf mc)
    (o : EncOpts) (ho : normOpts cfg o = mkO dm mc o.ifNotEmpty) (hi : o.ifNotEmpty = false) (t : Ty) (v : Val)
    (b : Bytes) (hreg : t.reg true cfg dm = true) (hwf : t.WF = true) (hty : HasType t v = true)
    (hn : noE3 cfg.seqOmitEmpty t v = true) (h : encItem cfg o t v = .ok b) :
    ∃ x : TLV, b = x.ser ∧ x.WF ∧ x.lenForm dm = true ∧ IsBer pf t v x := by
  rw [encItem, ho] at h
  obtain ⟨x, hb, hw, _, hf, hber⟩ := encode_spec cfg pf dm mc hR o.ifNotEmpty hi t v b hreg hwf hty hn h
  exact ⟨x, hb, hw, hf, hber⟩

/-- **CER: indefinite length exactly for constructed encodings, at every depth** (X.690 9.1).  Whatever the CER encoder
    writes for a value of the region, whatever options the caller passes, is the serialisation of a well-formed tree -
    an encoding of the value under the CER profile - in which every constructed node, however deep, has the
    indefinite form (`80 … 00 00`) and every primitive node the definite form (`TLV.lenForm false`) -/
theorem cer_length_form_everywhere (o : EncOpts) (hi : o.ifNotEmpty = false) (t : Ty) (v : Val) (b : Bytes)
    (hreg : t.reg true Generated.cerEnc false = true) (hwf : t.WF = true) (hty : HasType t v = true)
    (hn : noE3 true t v = true) (h : encItem Generated.cerEnc o t v = .ok b) :
    ∃ x : TLV, b = x.ser ∧ x.WF ∧ x.lenForm false = true ∧ IsBer cerProfile t v x :=
  length_form_everywhere (mc := 1000) ⟨by decide, .inr rfl, .inr rfl⟩ o rfl hi t v b hreg hwf hty hn h

/-- DER: the definite form at every node, at every depth (X.690 10.1) -/
theorem der_length_form_everywhere (o : EncOpts) (hi : o.ifNotEmpty = false) (t : Ty) (v : Val) (b : Bytes)
    (hreg : t.reg true Generated.derEnc true = true) (hwf : t.WF = true) (hty : HasType t v = true)
    (hn : noE3 true t v = true) (h : encItem Generated.derEnc o t v = .ok b) :
    ∃ x : TLV, b = x.ser ∧ x.WF ∧ x.allDef = true ∧ IsBer derProfile t v x := by
  obtain ⟨x, hb, hw, hf, hber⟩ :=
    length_form_everywhere (pf := derProfile) (mc := 0) ⟨by decide, .inl rfl, .inr rfl⟩ o rfl hi t v b hreg hwf hty hn h
  exact ⟨x, hb, hw, lenForm_allDef hf rfl, hber⟩

/-- BER: the caller's mode at every depth - definite everywhere under `defMode=True`, indefinite at every constructed
    node under `defMode=False` -/
theorem ber_length_form_everywhere (o : EncOpts) (hi : o.ifNotEmpty = false) (t : Ty) (v : Val) (b : Bytes)
    (hreg : t.reg true Generated.berEnc o.defMode = true) (hwf : t.WF = true) (hty : HasType t v = true)
    (h : encItem Generated.berEnc o t v = .ok b) :
    ∃ x : TLV, b = x.ser ∧ x.WF ∧ x.lenForm o.defMode = true ∧ IsBer berProfile t v x :=
  length_form_everywhere ⟨by decide, .inr rfl, .inl rfl⟩ o rfl hi t v b hreg hwf hty (noE3_false t v) h

/-- non-vacuity: a record with an explicitly tagged SEQUENCE OF and an OCTET STRING, in CER: `30 80 A0 80 30 80 02 01 05 00 00 00 00 04 01 09 00 00` - indefinite at the three constructed levels, definite at the leaves -/
example :
    let t : Ty := .seq (.cons .req (.tagged true .context 0 (.seqOf (.prim .integer))) (.cons .req (.prim (.str 4)) .nil))
    let v : Val := .seq [.seqOf [.int 5], .str [9]]
    t.reg true Generated.cerEnc false = true ∧ t.WF = true ∧ HasType t v = true ∧ noE3 true t v = true := by
  decide +kernel

example :
    (encItem Generated.cerEnc {}
      (.seq (.cons .req (.tagged true .context 0 (.seqOf (.prim .integer))) (.cons .req (.prim (.str 4)) .nil)))
      (.seq [.seqOf [.int 5], .str [9]])).toOption =
        some [0x30, 0x80, 0xA0, 0x80, 0x30, 0x80, 0x02, 0x01, 0x05, 0, 0, 0, 0, 0x04, 0x01, 0x09, 0, 0] := by
  decide +kernel

/-! ### the source itself: the kernels translated from /repo on this run (`Asn1/GenKernels.lean`)

The `GenK.*` definitions are produced by `gen/py2lean.py` from the bodies of the methods that the docstrings
below name (`AbstractItemEncoder.encodeTag`, `AbstractItemEncoder.encodeLength`,
`ObjectIdentifierEncoder.encodeValue`, `BooleanEncoder.encodeValue`, …) as they are in the working tree; the
statements from here on are therefore about what the code says now, not about a hand copy. -/

/-- **FF for TRUE at the source level** (X.690 11.1): `BooleanEncoder.encodeValue` of cer/encoder.py - the CER and DER encoder
    of BOOLEAN - translated from the working tree (`GenK.cerBoolEnc`) writes one contents octet, `00` for FALSE and `FF` for
    every other value, in primitive form: what the encoder model writes under the CER and DER tables -/
theorem source_true_is_ff (b : Bool) :
    GenK.cerBoolEnc (if b then 1 else 0) = .ok (Kernels.bytesInts [UInt8.ofNat (if b then Generated.cerEnc.boolTrue else 0)], false, false) ∧
    GenK.cerBoolEnc (if b then 1 else 0) = .ok (Kernels.bytesInts [UInt8.ofNat (if b then Generated.derEnc.boolTrue else 0)], false, false) ∧
    ∀ z : Int, z ≠ 0 → GenK.cerBoolEnc z = .ok ([255], false, false) := by
  refine ⟨by cases b <;> rfl, by cases b <;> rfl, ?_⟩
  intro z hz
  unfold GenK.cerBoolEnc
  simp [hz, bind, Except.bind, pure, Except.pure]

/-- the BER encoder of BOOLEAN (`ber/encoder.py` `BooleanEncoder.encodeValue`, `value and (1,) or (0,)`): one contents octet,
    `01` for TRUE - the `boolTrue` the encoder model has under the BER table -/
theorem source_ber_true_is_01 (b : Bool) :
    GenK.berBoolEnc (if b then 1 else 0) =
      .ok (Kernels.bytesInts [UInt8.ofNat (if b then Generated.berEnc.boolTrue else 0)], false, false) := by
  cases b <;> rfl

/-- **SET OF order at the source level** (X.690 11.6): `SetOfEncoder.encodeValue` of cer/encoder.py - the CER and DER encoder
    of SET OF - translated from the working tree by gen/py2lean.py (`GenK.setOfSort`; the element encodings are its
    argument): for every list of element encodings the source writes them in ascending order of their octets padded with
    zeros to the longest one, ties in their original order - the encoder model's `sortSetOfChunks`, which
    `der_encoder_is_x690` identifies with the X.690 order -/
theorem source_setof_order_is_model (cs : List Bytes) :
    GenK.setOfSort (cs.map Kernels.bytesInts) = .ok (Kernels.bytesInts (sortSetOfChunks cs).flatten, true, true) :=
  Kernels.setOfSort_kernel cs

/-- (no hypotheses to meet; the ordering of concrete lists - `02 01 03`, `02 01 01`, `04 00`, `02 02 01 00` come out as
    `02 01 01`, `02 01 03`, `02 02 01 00`, `04 00` - is run through the compiled driver against the real method in every
    check: `List.mergeSort` is defined by well-founded recursion and does not reduce in the kernel) -/
example : GenK.setOfSort [[2, 1, 3]] = .ok ([2, 1, 3], true, true) := by rfl

/-- identifier octets written by the source = X.690 8.1.2, every class, form, number -/
theorem source_identifier_is_x690 (t : Tag) (isConstructed : Bool) :
    GenK.encodeTag (Kernels.tagTriple t) isConstructed
      = .ok (Kernels.bytesInts (X690.ident t.cls (t.constructed || isConstructed) t.num)) := by
  rw [Kernels.encodeTag_kernel, identifier_is_x690]

/-- definite length octets written by the source = X.690 8.1.3 in the fewest octets, for every length
    below 256^126; beyond that the source refuses ("Length octets overflow") -/
theorem source_length_is_x690 (indefOk : Bool) (n : Nat) :
    GenK.encodeLength indefOk (n : Int) true =
      if (be256 n).length ≤ 126 ∨ n < 128 then .ok (Kernels.bytesInts (X690.len n))
      else .error (.lib "PyAsn1Error") := by
  rw [Kernels.encodeLength_kernel]
  simp only [encLen, Bool.not_true, Bool.false_and, Bool.false_eq_true, if_false]
  have hiff := encodeLength_isSome_iff n
  cases h : encodeLength n with
  | some l =>
    rw [h] at hiff
    rw [if_pos (hiff.mp rfl), length_is_x690 n l h]; rfl
  | none =>
    rw [h] at hiff
    rw [if_neg (fun hc => nomatch hiff.mpr hc)]; rfl

/-- in indefinite mode the source writes the single octet 80 for an encoder that supports it (first argument) -/
theorem source_length_indefinite (n : Nat) : GenK.encodeLength true (n : Int) false = .ok [128] := by
  rw [Kernels.encodeLength_kernel]; rfl

/-- INTEGER / ENUMERATED contents: `to_bytes(value, signed=True)` of pyasn1/compat/integer.py, as it is in the
    source, writes the two's complement of every integer in the fewest octets (X.690 8.3) -/
theorem source_integer_is_x690 (z : Int) :
    GenK.toBytes z true 0 = .ok (Kernels.bytesInts (X690.intOctets z)) := by
  rw [Kernels.toBytes_kernel, integer_is_x690]

/-- `IntegerEncoder.encodeValue` of ber/encoder.py as it is in the source (zero written as one `00` octet unless the encoder
    class asks for the compact form - none of the three codecs does -, everything else handed to the translated `to_bytes`):
    the contents of every INTEGER / ENUMERATED are the X.690 8.3 octets, in primitive form -/
theorem source_integer_encoder_is_x690 (z : Int) :
    ∃ isOctets, GenK.intEncode false z = .ok (Kernels.bytesInts (X690.intOctets z), false, isOctets) := by
  unfold GenK.intEncode
  by_cases h : z = 0
  · subst h
    refine ⟨false, ?_⟩
    have : X690.intOctets 0 = [0] := by rw [← integer_is_x690]; decide +kernel
    simp [this, pure, Except.pure, Kernels.bytesInts]
  · refine ⟨true, ?_⟩
    simp only [h, decide_false, Bool.false_eq_true, if_false, bind, Except.bind, source_integer_is_x690, pure, Except.pure]

/-- OBJECT IDENTIFIER contents written by the source = X.690 8.19, with the same refusals -/
theorem source_oid_is_x690 (arcs : List Nat) :
    GenK.oidEncode (Kernels.ints arcs) = Kernels.liftOid (X690.oidOctets arcs) := by
  rw [Kernels.oidEncode_kernel, oid_is_x690]

/-- binary REAL contents written by the source (the body of `RealEncoder.encodeValue` from the first octet to the
    mantissa octets, encoding base 2 - the BER default and the base CER/DER force; the split of the mantissa into
    sign and magnitude by `_dropFloatingPoint`, which is float-capable code, is modelled and compared, not translated)
    = X.690 8.5/11.3: first octet with sign, base and exponent-length bits, exponent in minimal two's complement with
    its length octet when longer than three, odd mantissa; refusal beyond 255 exponent octets -/
theorem source_real_is_x690 (m e : Int) (hm : m ≠ 0) :
    GenK.realBin (if m < 0 then -1 else 1) (m.natAbs : Int) 2 e = Kernels.liftReal (X690.realOctets (.fin m 2 e)) := by
  rw [Kernels.realBin_kernel m e hm, real_is_x690]

/-- **CER length form, at the source level** (X.690 9.1: indefinite length exactly for constructed encodings): under one
    tag and in indefinite mode (`defMode` false - what CER fixes), the header loop of `AbstractItemEncoder.encode` as it is
    in the source (`GenK.wrapTags`) writes `80 … 00 00` around constructed contents and a definite length and no
    end-of-octets around primitive ones - every tag, every non-empty contents -/
theorem source_cer_length_form (t : Tag) (sub : Bytes) (isCons isOct : Bool) (hne : sub ≠ []) :
    GenK.wrapTags true false [Kernels.tagTriple t] false (Kernels.bytesInts sub) isCons isOct =
      (if isCons then .ok (Kernels.bytesInts (encodeTag t true ++ [0x80] ++ sub ++ [0, 0]))
       else Kernels.liftLen (match encodeLength sub.length with
         | some l => .ok (encodeTag t false ++ l ++ sub)
         | none => .error .refused)) := by
  have h := Kernels.wrapTags_kernel true false false isCons isOct t [] sub
  simp only [List.map_cons, List.map_nil] at h
  rw [h, Kernels.wrapTags_single]
  have he : sub.isEmpty = false := List.isEmpty_eq_false_iff.mpr hne
  cases isCons
  · simp only [he, Bool.false_and, Bool.false_eq_true, if_false, Bool.and_false]
    cases encodeLength sub.length <;> simp [Kernels.liftLen]
  · simp [he, Kernels.liftLen]

/-- the translated header loop (calling the translated `encodeTag` / `encodeLength`) around the contents
    `c` of a primitive type, under the type's universal tag, writes `X690.der` of the value -/
theorem source_der_prim (p : PrimTy) (v : Val) (c l : Bytes) (hb : X690.derBody (.prim p) v = some (.prim c))
    (hl : encodeLength c.length = some l) :
    GenK.wrapTags false false [[0, 0, (p.univNum : Int)]] true (Kernels.bytesInts c) false false =
      .ok (Kernels.bytesInts ((X690.der (.prim p) v).getD [])) := by
  have hder : X690.derElem (.prim p) v = some (X690.wrap .universal false p.univNum c) := by
    unfold X690.derElem; simp only [hb]
  rw [Kernels.wrap_prim_kernel false _ c l hl, identifier_is_x690, length_is_x690 _ l hl, X690.der, hder]
  rfl

/-- **DER of an INTEGER, end to end at the source level**: the octets the translated `to_bytes` writes, wrapped by the
    translated header loop of `AbstractItemEncoder.encode` (calling the translated `encodeTag` / `encodeLength`) under the
    INTEGER tag, are the X.690 distinguished encoding `X690.der` of that integer - for every integer whose contents fit
    the length octets (no translated piece is left to the hand model; `X690.der` shares no code with any of them) -/
theorem source_der_integer_is_x690 (z : Int) (l : Bytes) (hl : encodeLength (intToBytes z).length = some l) :
    ∃ c : Py.Tup, GenK.toBytes z true 0 = .ok c ∧
      GenK.wrapTags false false [[0, 0, 2]] true c false false =
        .ok (Kernels.bytesInts ((X690.der (.prim .integer) (.int z)).getD [])) :=
  ⟨_, Kernels.toBytes_kernel z, source_der_prim .integer (.int z) _ l
    (by rw [X690.derBody, ← integer_is_x690]) hl⟩

/-- the same for OBJECT IDENTIFIER: translated arc encoder, translated header loop = `X690.der` -/
theorem source_der_oid_is_x690 (arcs : List Nat) (c l : Bytes) (hc : oidToContent arcs = some c)
    (hl : encodeLength c.length = some l) :
    GenK.oidEncode (Kernels.ints arcs) = .ok (Kernels.bytesInts c, false, false) ∧
      GenK.wrapTags false false [[0, 0, 6]] true (Kernels.bytesInts c) false false =
        .ok (Kernels.bytesInts ((X690.der (.prim .oid) (.oid arcs)).getD [])) :=
  ⟨by rw [Kernels.oidEncode_kernel, hc]; rfl, source_der_prim .oid (.oid arcs) c l
    (by rw [X690.derBody, ← oid_is_x690, hc]; rfl) hl⟩

/-- the same for a non-zero binary REAL: translated contents writer (base 2), translated header loop = `X690.der` -/
theorem source_der_real_is_x690 (m e : Int) (hm : m ≠ 0) (c l : Bytes) (hc : realBinToContent m e = some c)
    (hl : encodeLength c.length = some l) :
    GenK.realBin (if m < 0 then -1 else 1) (m.natAbs : Int) 2 e = .ok (Kernels.bytesInts c) ∧
      GenK.wrapTags false false [[0, 0, 9]] true (Kernels.bytesInts c) false false =
        .ok (Kernels.bytesInts ((X690.der (.prim .real) (.real (.fin m 2 e))).getD [])) := by
  exact ⟨by rw [Kernels.realBin_kernel m e hm, hc]; rfl, source_der_prim .real (.real (.fin m 2 e)) c l
    (by rw [X690.derBody, ← real_is_x690, hc]; rfl) hl⟩

/-- non-vacuity: [APPLICATION 16384] constructed; length 300; OID 2.999.3; -5 * 2^3, 12 * 2^298 = 3 * 2^300 (two exponent octets) -/
example : GenK.realBin (-1) 5 2 3 = .ok [192, 3, 5] := by rfl
example : GenK.realBin 1 12 2 298 = .ok [129, 1, 44, 3] := by rfl
example : GenK.encodeTag [64, 0, 16384] true = .ok [127, 129, 128, 0] := by rfl
example : GenK.encodeLength false 300 true = .ok [130, 1, 44] := by rfl
example : GenK.toBytes (-129) true 0 = .ok [255, 127] := by rfl
example : GenK.oidEncode [2, 999, 3] = .ok ([136, 55, 3], false, false) := by rfl

/-- on a record: the encoder's octets, and hence (by the theorem) those of the transcription -/
example :
    X690.der
      (.seq (.cons .req (.tagged true .context 5 (.prim .boolean))
        (.cons (.dflt (.int 7)) (.prim .integer)
          (.cons .req (.tagged false .application 1 (.setOf (.prim (.str 4)))) .nil))))
      (.seq [.bool true, .int 7, .seqOf [.str [9, 9]]])
      = some [0x30, 0x0b, 0xa5, 0x03, 0x01, 0x01, 0xff, 0x61, 0x04, 0x04, 0x02, 0x09, 0x09] := by
  -- `Except` has no decidable equality: the encoder's run is evaluated through `toOption`
  have ok : ∀ {e : Res Bytes} {b : Bytes}, e.toOption = some b → e = .ok b := by
    intro e b h
    cases e with
    | error _ => cases h
    | ok _ => cases h; rfl
  exact der_encoder_is_x690 {} rfl _ _ _ (by decide +kernel) (by decide +kernel) (by decide +kernel)
    (by decide +kernel) (ok (by decide +kernel))

end Asn1.C03
