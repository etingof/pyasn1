/-
  Props.C16 — self-describing encodings decode faithfully without a schema.
  The leaves theorems are for types with universal tags and EXPLICIT tagging only, without SET / SET OF
  (whose wire order is not the declaration order) and without DEFAULT members (`Ty.selfDesc`).
-/
import Asn1.Generated
import Asn1.Schemaless
import Proofs.Fuel
import Proofs.SchemalessLeaves
import Proofs.Codec
import Proofs.Kernels
import Props.C02

namespace Asn1.C16

/-- the schemaless decoder model never runs out of fuel and always answers with a guessed object or
    a library error class, for every byte string -/
theorem schemaless_total (cfg : DecCfg) (bs : Bytes) :
    decodeSchemaless cfg bs ≠ .error .fuel ∨ ∃ t rest, parseOne cfg.parse bs = .ok (t, rest) := by
  unfold decodeSchemaless
  cases hp : parseOne cfg.parse bs with
  | error e =>
    left
    simp only
    intro h
    simp only [Except.error.injEq] at h
    subst h
    exact parseOne_ne_fuel cfg.parse bs hp
  | ok pr => right; exact ⟨pr.1, pr.2, rfl⟩

/-- an empty container is guessed as an (empty) SEQUENCE OF / SET OF value, never "nothing" -/
theorem empty_container_is_value (cfg : DecCfg) (h : Bytes) (tg : Tag) (i : Bool)
    (hu : tg.cls = .universal) (hn : tg.num = 16 ∨ tg.num = 17) :
    decU cfg (.cons h tg i []) = .ok (.listOf (tg.num = 17) []) := by
  simp [decU, hu, hn, decUs]

/-- the by-tag tables used without a guiding type are the strict ones for DER (generated) -/
theorem schemaless_tables :
    Generated.derDecByTag.consStr = [] ∧ Generated.derDecByTag.consBits = false ∧
    Generated.derDecByTag.boolStrict = true ∧ Generated.cerDecByTag.boolStrict = true := by
  decide

/-- the BER by-tag tables read every form the BER profile allows: BOOLEAN is not strict, and every
    string kind (BIT STRING too) has its constructed-form decoder installed -/
theorem ber_byTag_compat : Compat berProfile Generated.berDecByTag :=
  { bool := fun _ => rfl, seg := fun _ => ⟨rfl, by decide⟩ }

/-- **every encoding the rules allow is decoded without a type to a value object with the value's
    leaves** (`Ty.selfDesc` types): for every BER form of the value — any length forms, definite or
    indefinite nesting, segmented strings, any TRUE octet, OPTIONAL members present or not — followed by
    any octets, the schemaless decoder returns an object (never a placeholder) whose scalar leaves, in
    order, are those of the value, and leaves the tail. -/
theorem schemaless_recovers_leaves (t : Ty) (v : Val) (x : TLV) (tail : Bytes)
    (hs : t.selfDesc = true) (hw : t.WF = true) (hx : x.WF) (hb : IsBer berProfile t v x) :
    ∃ u, decodeSchemaless Generated.berDecByTag (x.ser ++ tail) = .ok (u, tail) ∧
      u.leaves = leavesOf t v := by
  obtain ⟨u, hd, hl⟩ := leaves_ty berProfile Generated.berDecByTag ber_byTag_compat t v x hs hw hb
  exact ⟨u, by rw [decodeSchemaless_ser _ x tail hx (Or.inl rfl), hd]; rfl, hl⟩

/-- what an encoder writes for a value of a `selfDesc` type, the schemaless decoder of any codec
    admitting a common profile reads as an object with the value's leaves and nothing left over -/
theorem encoding_gives_leaves (cfg : EncCfg) (dcfg : DecCfg) (pf : Profile) (o : EncOpts)
    (hi : o.ifNotEmpty = false)
    (hR : EncRegion cfg pf (cfg.fixedChunk.getD o.maxChunk)) (hC : Compat pf dcfg)
    (hparse : cfg.fixedDefMode.getD o.defMode = true ∨ dcfg.parse.allowIndef = true)
    (t : Ty) (v : Val) (b : Bytes) (hs : t.selfDesc = true)
    (hreg : t.reg true cfg (cfg.fixedDefMode.getD o.defMode) = true) (hwf : t.WF = true)
    (hty : HasType t v = true) (hn : noE3 cfg.seqOmitEmpty t v = true)
    (h : encItem cfg o t v = .ok b) :
    ∃ u, decodeSchemaless dcfg b = .ok (u, []) ∧ u.leaves = leavesOf t v := by
  obtain ⟨x, rfl, hxw, hok, hber⟩ := encItem_spec cfg dcfg pf o hi hR hparse t v b hreg hwf hty hn h
  obtain ⟨u, hd, hl⟩ := leaves_ty pf dcfg hC t v x hs hwf hber
  have := decodeSchemaless_ser dcfg x [] hxw hok
  rw [List.append_nil, hd] at this
  exact ⟨u, this, hl⟩

/-- **DER, CER and BER encodings of a value all give its leaves back without a type**: what the three
    encoders write for a value of a `selfDesc` type is read by the schemaless decoder of the same
    codec as an object with the value's leaves and nothing left over. -/
theorem encodings_give_leaves (t : Ty) (v : Val) (hs : t.selfDesc = true) (hw : t.WF = true)
    (hty : HasType t v = true) (hn : noE3 true t v = true) :
    (∀ b, t.reg true Generated.derEnc true = true → encItem Generated.derEnc {} t v = .ok b →
        ∃ u, decodeSchemaless Generated.derDecByTag b = .ok (u, []) ∧ u.leaves = leavesOf t v) ∧
    (∀ b, t.reg true Generated.cerEnc false = true → encItem Generated.cerEnc {} t v = .ok b →
        ∃ u, decodeSchemaless Generated.cerDecByTag b = .ok (u, []) ∧ u.leaves = leavesOf t v) ∧
    (∀ b defMode maxChunk, t.reg true Generated.berEnc defMode = true →
        encItem Generated.berEnc { defMode := defMode, maxChunk := maxChunk } t v = .ok b →
        ∃ u, decodeSchemaless Generated.berDecByTag b = .ok (u, []) ∧ u.leaves = leavesOf t v) :=
  ⟨fun b hreg he =>
    encoding_gives_leaves Generated.derEnc Generated.derDecByTag derProfile {} rfl (C02.der_region {})
      (.der _) (Or.inl rfl) t v b hs hreg hw hty hn he,
   fun b hreg he =>
    encoding_gives_leaves Generated.cerEnc Generated.cerDecByTag cerProfile {} rfl (C02.cer_region {})
      ⟨fun h => (by cases h), fun _ => ⟨rfl, by decide⟩⟩ (Or.inr rfl) t v b hs hreg hw hty hn he,
   fun b defMode maxChunk hreg he =>
    encoding_gives_leaves Generated.berEnc Generated.berDecByTag berProfile
      { defMode := defMode, maxChunk := maxChunk } rfl
      { boolT := by decide, chunk := Or.inr rfl, setOmit := Or.inl rfl }
      ber_byTag_compat (Or.inr rfl) t v b hs hreg hw hty (noE3_false t v) he⟩

/-- the hypotheses are met by a nested record with an explicitly tagged member, an absent OPTIONAL
    and a SEQUENCE OF -/
example :
    let t : Ty := .seq (.cons .req (.tagged true .context 2 (.prim (.str 12)))
      (.cons .opt (.prim .boolean) (.cons .req (.seqOf (.seq (.cons .req (.prim .integer) .nil))) .nil)))
    let v : Val := .seq [.str [0x61], .absent, .seqOf [.seq [.int 5], .seq [.int (-1)]]]
    t.selfDesc = true ∧ t.WF = true ∧ HasType t v = true ∧ noE3 true t v = true ∧
      t.reg true Generated.derEnc true = true := by
  decide +kernel

example : leavesOf (.seq (.cons .req (.tagged true .context 2 (.prim (.str 12)))
      (.cons .opt (.prim .boolean) (.cons .req (.seqOf (.seq (.cons .req (.prim .integer) .nil))) .nil))))
    (.seq [.str [0x61], .absent, .seqOf [.seq [.int 5], .seq [.int (-1)]]])
    = [(12, .str [0x61]), (2, .int 5), (2, .int (-1))] := by
  simp [leavesOf, leavesF, leavesE, PrimTy.univNum]

/-- **an unknown tag is an explicit wrapper exactly when it is constructed and not universal, at the source level**: the
    `stTryAsExplicitTag` block of `SingleItemDecoder.__call__` (translated from /repo on this run into `GenK.explicitGuess`:
    the first tag's form and class parameters, the decoder's `defaultErrorState` a parameter) goes on to decode the contents as
    a nested element (state `stDecodeValue` = 6) for a constructed tag of a non-universal class, and to the error state
    otherwise - for every tag and every non-empty tag set -/
theorem source_unknown_tag_is_wrapper_or_error (t : Tag) (ts : Py.Tup) (hne : ts ≠ []) (errState : Int) :
    GenK.explicitGuess errState (t.cls.bits : Int) ((if t.constructed then 0x20 else 0 : Nat) : Int) ts =
      .ok (if t.constructed && t.cls != .universal then 6 else errState) := by
  have he : ts.isEmpty = false := by cases ts with
    | nil => exact absurd rfl hne
    | cons a r => rfl
  rw [GenK.explicitGuess, he]
  cases t.constructed <;> cases t.cls <;> rfl

/-- with the error state the three decoders declare (`Generated`: 8 = stErrorCondition), a primitive unknown tag and an unknown
    universal tag are refused, a constructed context / application / private one is opened -/
example : GenK.explicitGuess 8 128 32 [0] = .ok 6 := by rfl
example : GenK.explicitGuess 8 128 0 [0] = .ok 8 := by rfl
example : GenK.explicitGuess 8 0 32 [0] = .ok 8 := by rfl

end Asn1.C16
