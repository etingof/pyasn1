/-
  Props.C07 — decoding consumes exactly one encoding and preserves what follows.
-/
import Asn1.Generated
import Proofs.Parse
import Proofs.Fuel
import Proofs.RoundTrip
import Proofs.Kernels
import Proofs.KernelLen
import Proofs.KernelTag

namespace Asn1.C07

/-- **exact consumption**: a well-formed element `t` followed by arbitrary bytes `tail` (empty, zeros,
    another encoding, garbage) is framed as exactly `t`, and `tail` is returned untouched — for every
    tree: any tags, any length forms, definite or indefinite nesting, any size. -/
theorem tail_preserved (cfg : ParseCfg) (t : TLV) (tail : Bytes) (hw : t.WF) (ho : t.okFor cfg) :
    parseOne cfg (t.ser ++ tail) = .ok (t, tail) :=
  parseOne_ser cfg t tail hw ho

/-- the guided decoder returns the remainder the framing layer computed: whatever value it builds,
    the remainder is exactly `tail` -/
theorem decodeOne_tail (cfg : DecCfg) (ty : Ty) (t : TLV) (tail : Bytes) (v : Val) (rest : Bytes)
    (hw : t.WF) (ho : t.okFor cfg.parse)
    (h : decodeOne cfg ty (t.ser ++ tail) = .ok (v, rest)) : rest = tail := by
  obtain ⟨x, hp, _⟩ := decodeOne_ok.mp h
  rw [parseOne_ser cfg.parse t tail hw ho] at hp
  exact (Prod.mk.inj (Except.ok.inj hp)).2.symm

/-- a stream of elements back to back: framing the first leaves exactly the others (by induction
    this gives one object per encoding and the position after object i = |e₁…eᵢ|) -/
theorem stream_first (cfg : ParseCfg) (t : TLV) (ts : List TLV) (hw : t.WF) (ho : t.okFor cfg) :
    parseOne cfg (serList (t :: ts)) = .ok (t, serList ts) := by
  simp only [serList]
  exact parseOne_ser cfg t _ hw ho

/-- every successful framing step consumes at least two octets: no object is delivered twice and
    the position strictly advances -/
theorem progress (cfg : ParseCfg) (bs : Bytes) (t : TLV) (rest : Bytes)
    (h : parseOne cfg bs = .ok (t, rest)) : rest.length + 2 ≤ bs.length :=
  parse_consumes cfg _ bs t rest h

/-- **encoder output followed by anything**: the encoding the BER encoder produces (any mode; region
    of `Asn1.Ty.reg`, which in indefinite mode excludes finding E1) is consumed exactly — the value
    comes back and the tail is returned untouched, whatever it is -/
theorem encoding_then_tail (defMode : Bool) (maxChunk : Nat) (t : Ty) (v : Val) (b tail : Bytes)
    (hreg : t.reg false Generated.berEnc defMode = true) (hwf : t.WF = true) (hty : HasType t v = true)
    (h : encItem Generated.berEnc { defMode := defMode, maxChunk := maxChunk } t v = .ok b) :
    decodeOne Generated.berDecByType t (b ++ tail) = .ok (v, tail) :=
  roundtrip_item Generated.berEnc Generated.berDecByType { defMode := defMode, maxChunk := maxChunk }
    { seqOmit := rfl, setOrd := rfl, sortOf := rfl, chunk := Or.inr ⟨rfl, by decide +kernel⟩, ine := rfl,
      bool := by intro b hd tg; cases b <;> rfl } rfl t v b tail hreg hwf hty h

/-- two encodings back to back: the first decode leaves exactly the second encoding, which then
    decodes to the second value with nothing left -/
theorem two_encodings (defMode : Bool) (maxChunk : Nat) (t1 t2 : Ty) (v1 v2 : Val) (b1 b2 : Bytes)
    (hr1 : t1.reg false Generated.berEnc defMode = true) (hw1 : t1.WF = true) (ht1 : HasType t1 v1 = true)
    (hr2 : t2.reg false Generated.berEnc defMode = true) (hw2 : t2.WF = true) (ht2 : HasType t2 v2 = true)
    (h1 : encItem Generated.berEnc { defMode := defMode, maxChunk := maxChunk } t1 v1 = .ok b1)
    (h2 : encItem Generated.berEnc { defMode := defMode, maxChunk := maxChunk } t2 v2 = .ok b2) :
    decodeOne Generated.berDecByType t1 (b1 ++ b2) = .ok (v1, b2) ∧
      decodeOne Generated.berDecByType t2 b2 = .ok (v2, []) := by
  refine ⟨encoding_then_tail defMode maxChunk t1 v1 b1 b2 hr1 hw1 ht1 h1, ?_⟩
  have := encoding_then_tail defMode maxChunk t2 v2 b2 [] hr2 hw2 ht2 h2
  simpa using this

/-! ### at the source level: the header the encoder writes is what the decoder's blocks consume - no more, no less -/

/-- the length octets the model writes: one octet below 128, else `0x80 + k` followed by exactly `k` octets -/
theorem encodeLength_shape (n : Nat) (b : UInt8) (lb : Bytes) (h : encodeLength n = some (b :: lb)) :
    (b.toNat < 128 ∧ lb = []) ∨ (128 < b.toNat ∧ b.toNat % 128 = lb.length) := by
  rcases encodeLength_cases h with ⟨hs, he⟩ | ⟨hs, hl, he⟩
  · obtain ⟨rfl, rfl⟩ := List.cons.inj he
    exact .inl ⟨by rw [toNat_ofNat_lt n (by omega)]; exact hs, rfl⟩
  · obtain ⟨rfl, rfl⟩ := List.cons.inj he
    have hpos : 0 < (be256 n).length := beDigits_length_pos 254 n (by omega)
    rw [toNat_ofNat_lt _ (by omega), natsToBytes_length, Nat.add_mod_left, Nat.mod_eq_of_lt (by omega)]
    exact .inr ⟨by omega, rfl⟩

/-- **a header written by the source's encoder is consumed exactly by the source's decoder, whatever follows**: for every
    tag, either form, every contents length up to `sys.maxsize` and every `tail`, the translated `encodeTag` and
    `encodeLength` write `ident` and `b :: lb`; on `ident ++ b :: lb ++ tail` the translated `stDecodeTag` block reads the
    tag back having consumed exactly `|ident|` octets, and the translated `stDecodeLength` block - handed the first length
    octet and the `b mod 128` octets after it, which is what it asks the stream for in the long form - answers `n`, and
    those octets are exactly `lb`: none of `tail` is read -/
theorem source_header_consumed_exactly (t : Tag) (ic allowIndef indefOk : Bool) (n : Nat) (hn : n ≤ 9223372036854775807)
    (tail : Bytes) :
    ∃ (ident : Bytes) (b : UInt8) (lb : Bytes),
      GenK.encodeTag (Kernels.tagTriple t) ic = .ok (Kernels.bytesInts ident) ∧
      GenK.encodeLength indefOk (n : Int) true = .ok (Kernels.bytesInts (b :: lb)) ∧
      GenK.decodeTag (Kernels.bytesInts (ident ++ ((b :: lb) ++ tail))) =
        .ok [(t.cls.bits : Int), if (t.constructed || ic) then 32 else 0, (t.num : Int), (ident.length : Int)] ∧
      GenK.decodeLength allowIndef (b.toNat : Int) (Kernels.bytesInts ((lb ++ tail).take (b.toNat % 128))) = .ok (n : Int) ∧
      ((b.toNat < 128 ∧ lb = []) ∨ (128 < b.toNat ∧ (lb ++ tail).take (b.toNat % 128) = lb)) := by
  have hlen : (be256 n).length ≤ 8 := Kernels.be256_length_le 8 n (by show n < 256 ^ 8; omega)
  obtain ⟨l, hl⟩ := Option.isSome_iff_exists.mp (encodeLength_isSome n (by omega))
  have hdec := decodeLength_encodeLength n l hl
  obtain ⟨b, lb, rfl⟩ := List.exists_cons_of_ne_nil (encodeLength_ne_nil n l hl)
  refine ⟨encodeTag t ic, b, lb, Kernels.encodeTag_kernel t ic, Kernels.encodeLength_kernel_of_some indefOk hl,
    ?_, ?_, ?_⟩
  · rw [Kernels.decodeTag_kernel, decodeTag_encodeTag]
    simp only [Kernels.liftDecTag, List.length_append, Nat.add_sub_cancel]
  · rw [Kernels.decodeLength_kernel allowIndef b (lb ++ tail), ← List.cons_append, hdec tail]
    exact Kernels.liftDecLen_definite allowIndef hn tail
  · rcases encodeLength_shape n b lb hl with h | ⟨h1, h2⟩
    · exact Or.inl h
    · exact Or.inr ⟨h1, by rw [h2]; simp⟩

/-- non-vacuity: `[APPLICATION 40]` constructed over 300 octets of contents is `7F 28 82 01 2C`; the identifier block stops
    after two octets, the length block reads the two octets after `82` and answers 300 -/
example : GenK.decodeTag [0x7F, 0x28, 0x82, 0x01, 0x2C, 0xAA, 0xBB] = .ok [64, 32, 40, 2] := by rfl
example : GenK.decodeLength true 0x82 [0x01, 0x2C] = .ok 300 := by rfl

end Asn1.C07
