import Proofs.Digits
import Proofs.TagLen
import Proofs.Res
import Proofs.Typing
import Proofs.Parse
import Proofs.Prefix
import Proofs.Fuel
import Proofs.TimeDigits
import Proofs.TimeRoundtrip
import Proofs.TimeCanon
import Proofs.TimeInstant
import Proofs.Stream
import Proofs.StreamParse
import Proofs.Constraint
import Proofs.ConstraintTyped
import Proofs.ConstraintDerive
import Proofs.NativeText
import Proofs.NativeBase
import Proofs.Sound
import Proofs.StreamIter
import Proofs.StreamWrapper
import Proofs.NativeRoundtrip
import Proofs.NativeTree
import Proofs.ContainerSort
import Proofs.ContainerDict
import Proofs.ContainerSeqOf
import Proofs.ContainerRec
import Proofs.StreamRaw
import Proofs.ContainerChoice
import Proofs.ContainerEnc
import Proofs.Wrap
import Proofs.PrimRT
import Proofs.DecInduct
import Proofs.DecTags
import Proofs.Dispatch
import Proofs.RoundTrip
import Proofs.ContainerDyn
import Proofs.TagReject
import Proofs.VEq
import Proofs.Placed
import Proofs.Complete
import Proofs.EncSpec
import Proofs.Codec
import Proofs.Mono
import Proofs.RealRT
import Proofs.SchemalessLeaves
import Proofs.X690Prim
import Proofs.X690Sort
import Proofs.X690Der
import Proofs.StrictEverywhere
import Proofs.KernelBase
import Proofs.Kernels
import Proofs.ConstraintSound
import Proofs.AnyOk
import Proofs.OpenType
import Proofs.StreamTyped
import Proofs.Canonical
import Proofs.KernelTime
import Proofs.KernelReal
import Proofs.KernelRealDec
import Proofs.KernelLen
import Proofs.KernelTag
import Proofs.KernelChunk
import Proofs.KernelSort
import Proofs.KernelStream
import Proofs.KernelReadTurn
import Proofs.KernelBits
import Proofs.KernelGate
import Proofs.KernelConstraint
import Proofs.KernelWrap
