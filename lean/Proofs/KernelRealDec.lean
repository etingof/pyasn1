/-
  Proofs.KernelRealDec — the binary branch of `RealPayloadDecoder.valueDecoder` (translated from the source
  into `GenK.realDec`) computes the model's `realFromContent`.
-/
import Proofs.KernelBase
import Proofs.RealRT

namespace Asn1.Kernels
open Py

theorem sliceFrom_one (h : Int) (t : List Int) : Py.sliceFrom (h :: t) 1 = t := rfl

/-- A fuel loop `while t: e = e << 8 | t[0]; t = t[1:]` reads the octets of `t` into `e`, most significant
    first, when it has more fuel than octets. `F` is any function with the loop's two unfolding equations:
    the exponent loop and the mantissa loop of the decoder are two. -/
theorem shiftOrLoop (F : Nat → Int → Py.Tup → Py.M (Int × Py.Tup))
    (h0 : ∀ f e, F (f + 1) e [] = .ok (e, []))
    (hs : ∀ f e (b : UInt8) (bs : Bytes), F (f + 1) e (bytesInts (b :: bs)) = F f (e * 256 + b.toNat) (bytesInts bs)) :
    ∀ (bs : Bytes) (fuel : Nat) (e : Int), bs.length < fuel → F fuel e (bytesInts bs) = .ok (intFromBytesAux e bs, [])
  | _, 0, _, hf => absurd hf (Nat.not_lt_zero _)
  | [], f + 1, e, _ => h0 f e
  | b :: rest, f + 1, e, hf => by
    rw [hs, shiftOrLoop F h0 hs rest f _ (Nat.lt_of_succ_lt_succ hf)]; rfl

theorem realDec_loop1_spec (bs : Bytes) (fuel : Nat) (e : Int) (h : bs.length < fuel) :
    GenK.realDec_loop1 fuel e (bytesInts bs) = .ok (intFromBytesAux e bs, []) :=
  shiftOrLoop GenK.realDec_loop1 (fun _ _ => rfl)
    (fun f e b bs => by
      simp only [GenK.realDec_loop1, bytesInts_cons, List.isEmpty_cons, Bool.not_false, if_true, idx_cons_zero, bind,
        Except.bind, sliceFrom_one, shl_bor_octet])
    bs fuel e h

theorem realDec_loop2_spec (bs : Bytes) (fuel : Nat) (e : Int) (h : bs.length < fuel) :
    GenK.realDec_loop2 fuel e (bytesInts bs) = .ok (intFromBytesAux e bs, []) :=
  shiftOrLoop GenK.realDec_loop2 (fun _ _ => rfl)
    (fun f e b bs => by
      simp only [GenK.realDec_loop2, bytesInts_cons, List.isEmpty_cons, Bool.not_false, if_true, idx_cons_zero, bind,
        Except.bind, sliceFrom_one, shl_bor_octet])
    bs fuel e h

-- the two `unreachable` arms are never met: it is applied to `realFromContent (fo :: _)` with `fo ≥ 128` only (the
-- binary forms), which answers `.fin _ 2 _` or `.error .malformed`; `±∞` and `.error .fuel` need `fo < 128`
def liftRealDec : Res RealVal → Py.M Py.Tup
  | .ok (.fin p b e) => .ok [p, (b : Int), e]
  | .ok _ => .error (.lib "unreachable")
  | .error .malformed => .error (.lib "PyAsn1Error")
  | .error _ => .error (.lib "unreachable")

theorem fo_sign (f : Nat) : Py.truthy (Py.band (f : Int) 64) = decide (f / 64 % 2 = 1) := by
  rw [show (64 : Int) = ((2 ^ 6 : Nat) : Int) from rfl, band_bit]
  split <;> simp [*, Py.truthy]

theorem sliceToG_bytes (bs : Bytes) (n : Nat) : Py.sliceToG (bytesInts bs) (n : Int) = bytesInts (bs.take n) := by
  have : ¬ ((n : Int) < 0) := by omega
  simp [Py.sliceToG, bytesInts, List.map_take, this]

theorem sliceFromG_bytes (bs : Bytes) (n : Nat) : Py.sliceFromG (bytesInts bs) (n : Int) = bytesInts (bs.drop n) := by
  have : ¬ ((n : Int) < 0) := by omega
  simp [Py.sliceFromG, bytesInts, List.map_drop, this]

theorem sign_start (b : UInt8) :
    Py.orI (Py.andI (Py.band (b.toNat : Int) 128) (-1)) 0 = if b.toNat < 128 then 0 else -1 := by
  rw [band_128 _ (UInt8.toNat_lt b)]
  by_cases h : b.toNat < 128 <;> simp only [h, if_true, if_false] <;> rfl

theorem intFromBytes_start (b : UInt8) (r : Bytes) :
    intFromBytesAux (if b.toNat < 128 then 0 else -1) (b :: r) = intFromBytes (b :: r) := by
  simp only [intFromBytesAux, intFromBytes]
  congr 1
  by_cases h : b.toNat < 128 <;> simp [h] <;> omega

/-- the exponent length: the low two bits of the first octet plus one, or - when that is 4 - the next octet -/
theorem expLen_pair (f : Nat) (c0 : UInt8) (rest0 : Bytes) :
    (if ((f % 4 : Nat) : Int) + 1 = 4 then ((c0.toNat : Int), bytesInts rest0)
      else (((f % 4 : Nat) : Int) + 1, (c0.toNat : Int) :: bytesInts rest0)) =
    Prod.map (fun n : Nat => (n : Int)) bytesInts (if f % 4 + 1 = 4 then (c0.toNat, rest0) else (f % 4 + 1, c0 :: rest0)) := by
  by_cases h4 : f % 4 + 1 = 4
  · rw [if_pos h4, if_pos (by omega)]; rfl
  · rw [if_neg h4, if_neg (by omega)]; rfl

theorem realDec_kernel (fo : UInt8) (chunk : Bytes) (hb : fo.toNat ≥ 128) :
    GenK.realDec (fo.toNat : Int) (bytesInts chunk) = liftRealDec (realFromContent (fo :: chunk)) := by
  unfold realFromContent
  dsimp only
  rw [if_pos hb]
  unfold GenK.realDec
  cases chunk with
  | nil => simp [bytesInts, liftRealDec, throw_eq]
  | cons c0 rest0 =>
    simp only [bytesInts_cons, List.isEmpty_cons, Bool.not_false, Bool.not_true, Bool.false_eq_true, if_false]
    have hb3 : Py.band (fo.toNat : Int) 3 = ((fo.toNat % 4 : Nat) : Int) := band_low _ 2
    have hbase : Py.band (Py.shr (fo.toNat : Int) 4) 3 = ((fo.toNat / 16 % 4 : Nat) : Int) :=
      (shr_pow fo.toNat 4).symm ▸ band_low _ 2
    have hsf : Py.band (Py.shr (fo.toNat : Int) 2) 3 = ((fo.toNat / 4 % 4 : Nat) : Int) :=
      (shr_pow fo.toNat 2).symm ▸ band_low _ 2
    have hsign := fo_sign fo.toNat
    simp only [hb3, hbase, hsf, hsign, bind, Except.bind, idx_cons_zero, sliceFrom_one, pure, Except.pure, ite_ok,
      decide_eq_true_eq]
    rw [expLen_pair]
    generalize (if fo.toNat % 4 + 1 = 4 then (c0.toNat, rest0) else (fo.toNat % 4 + 1, c0 :: rest0)) = NC
    obtain ⟨N, C⟩ := NC
    simp only [Prod.map_apply, sliceToG_bytes, sliceFromG_bytes, bytesInts_isEmpty, Bool.not_not]
    have hbvlt : fo.toNat / 16 % 4 < 4 := Nat.mod_lt _ (by decide)
    have hsvlt : fo.toNat / 4 % 4 < 4 := Nat.mod_lt _ (by decide)
    generalize fo.toNat / 16 % 4 = bv at hbvlt ⊢
    generalize fo.toNat / 4 % 4 = sv at hsvlt ⊢
    generalize fo.toNat / 64 % 2 = gv
    clear hbase hsf hsign hb3
    generalize hE : List.take N C = E
    generalize hM : List.drop N C = M
    have hlenE := bytesInts_length E
    have hlenM := bytesInts_length M
    have hl2 := realDec_loop2_spec M (M.length + 1) 0 (by omega)
    have hmant := intFromBytesAux_zero M
    by_cases hemp : (E.isEmpty || M.isEmpty) = true
    · simp [hemp, liftRealDec, throw_eq]
    · simp only [hemp, Bool.false_eq_true, if_false]
      cases E with
      | nil => simp at hemp
      | cons b0 r =>
        have hl1 := realDec_loop1_spec (b0 :: r) ((b0 :: r).length + 1) (if b0.toNat < 128 then 0 else -1) (by omega)
        simp only [bytesInts_cons] at hl1 hlenE ⊢
        rw [idx_cons_zero]
        simp only [sign_start, hlenE, hlenM, hl1, hl2, intFromBytes_start, hmant, pow_nat]
        -- with the tests read on naturals the code's base, sign and scale steps are the model's, term for term
        simp only [gt_iff_lt, lit_lt, eq_lit]
        by_cases hb2 : 2 < bv
        · simp only [hb2, if_true]; rfl
        · simp only [hb2, if_false, liftRealDec]
          rfl

end Asn1.Kernels
