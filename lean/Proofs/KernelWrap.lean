/-
  Proofs.KernelWrap — the header loop of `AbstractItemEncoder.encode` (one identifier + length per tag of the tag
  set, innermost first, end-of-octets after an indefinite header; translated from the source into `GenK.wrapTags`,
  calling the translated `encodeTag` / `encodeLength`) computes the model's `wrapTags`: one turn of the translated
  loop has the shape of the model's recursion equation (`wrapTags_loop1_cons`), the rest is induction on the tag set,
  from any position `idx` and any octets so far.
-/
import Proofs.Kernels

namespace Asn1.Kernels
open Py

/-- one turn of the translated loop, in the shape of the model's equation for `wrapTags _ (t :: ts)`; `dov` is the
    source's `defModeOverride` -/
theorem wrapTags_loop1_cons {ine indefOk defMode isCons isOct : Bool} {t : Py.Tup} {rest : List Py.Tup} {idx : Nat}
    {sub : Py.Tup} {dov : Bool} (hdov : dov = if idx == 0 && !isCons then true else defMode) :
    GenK.wrapTags_loop1 ine indefOk defMode (t :: rest) (idx : Int) sub isCons isOct =
      if idx = 0 ∧ (sub.isEmpty && isCons && ine) = true then pure (Sum.inl sub)
      else (do
        let h ← GenK.encodeTag t isCons
        let l ← GenK.encodeLength indefOk (Py.len sub) dov
        GenK.wrapTags_loop1 ine indefOk defMode rest ((idx + 1 : Nat) : Int)
          (h ++ l ++ sub ++ if dov then [] else [0, 0]) isCons isOct) := by
  have heoo : ∀ (d : Bool) (a : Py.Tup), (if (!d) = true then a ++ [0, 0] else a) = a ++ if d then [] else [0, 0] := by
    intro d a
    cases d
    · rfl
    · exact (List.append_nil a).symm
  subst hdov
  rw [GenK.wrapTags_loop1]
  -- the two `isOctets` branches of the source are the same text (`ite_self`); the `if`s that set `defModeOverride`
  -- and append the end-of-octets choose between two values, not two computations (`apply_ite`)
  simp only [ite_self, truthy_nat, ← apply_ite (pure : _ → Py.M _), pure_bind, heoo]
  by_cases h0 : idx = 0
  · subst h0
    simp only [ne_eq, not_true_eq_false, decide_false, Bool.not_false, if_true, Bool.not_not, true_and]
    rfl
  · simp only [ne_eq, h0, not_false_eq_true, decide_true, Bool.not_true, Bool.false_eq_true, if_false,
      beq_false_of_ne h0, Bool.false_and, false_and]
    rfl

/-- the loop's answer in terms of the model: `Sum.inr` (fell through) with the wrapped octets -/
def liftWrap (isCons isOct : Bool) : Except Err Bytes → Py.M (Sum Py.Tup (Py.Tup × Bool × Bool))
  | .ok b => .ok (Sum.inr (bytesInts b, isCons, isOct))
  | .error _ => .error (.lib "PyAsn1Error")

theorem wrapTags_loop1_spec {ine indefOk defMode isCons isOct : Bool} {tags : List Tag} (idx : Nat) (sub : Bytes)
    (hearly : ¬ (idx = 0 ∧ (sub.isEmpty && isCons && ine) = true)) :
    GenK.wrapTags_loop1 ine indefOk defMode (tags.map tagTriple) (idx : Int) (bytesInts sub) isCons isOct =
      liftWrap isCons isOct (Asn1.wrapTags indefOk defMode isCons (idx == 0) tags sub) := by
  induction tags generalizing idx sub with
  | nil => rfl
  | cons t ts ih =>
    rw [List.map_cons, wrapTags_loop1_cons rfl, bytesInts_isEmpty, if_neg hearly, Asn1.wrapTags,
      encodeTag_kernel, len_bytes, encodeLength_kernel]
    generalize (if idx == 0 && !isCons then true else defMode) = dov
    cases encLen indefOk sub.length dov with
    | error e => rfl
    | ok l =>
      -- the next turn is not at the base tag, so it cannot return early
      have ih := ih (idx + 1) (Asn1.encodeTag t isCons ++ l ++ sub ++ if dov then [] else Asn1.wrapTags.eooBytesE)
        (fun h => Nat.succ_ne_zero idx h.1)
      rwa [bytesInts_append, bytesInts_append, bytesInts_append, apply_ite bytesInts] at ih

/-- **the header loop of `AbstractItemEncoder.encode` as it is in the source** (with `encodeValue`'s answer
    `(substrate, isConstructed, isOctets)` as arguments) **computes the model's `wrapTags`**, for every non-empty tag
    set, every substrate, `defMode`, `supportIndefLenMode` and `ifNotEmpty`: the early return for an empty constructed
    value under `ifNotEmpty`, the definite form forced on a primitive base tag only, one identifier and one length per
    tag, end-of-octets exactly after a header written in the indefinite form -/
theorem wrapTags_kernel (indefOk ine defMode isCons isOct : Bool) (t : Tag) (ts : List Tag) (sub : Bytes) :
    GenK.wrapTags indefOk ine ((t :: ts).map tagTriple) defMode (bytesInts sub) isCons isOct =
      liftLen (if sub.isEmpty && isCons && ine then .ok [] else Asn1.wrapTags indefOk defMode isCons true (t :: ts) sub) := by
  rw [GenK.wrapTags, show (0 : Int) = ((0 : Nat) : Int) from rfl]
  by_cases hearly : (sub.isEmpty && isCons && ine) = true
  · rw [List.map_cons, wrapTags_loop1_cons rfl, bytesInts_isEmpty, if_pos ⟨rfl, hearly⟩, if_pos hearly]
    obtain rfl : sub = [] := by
      simp only [Bool.and_eq_true, List.isEmpty_iff] at hearly; exact hearly.1.1
    rfl
  · rw [wrapTags_loop1_spec 0 sub (fun h => hearly h.2), if_neg hearly,
      show ((0 : Nat) == 0) = true from rfl]
    cases Asn1.wrapTags indefOk defMode isCons true (t :: ts) sub <;> cases isOct <;> rfl

/-- the model's header loop on a single tag, spelled out: a constructed value in indefinite mode (CER; BER with
    `defMode=False`) under an encoder that supports the indefinite form gets `80` and a closing `00 00`; a primitive
    one always gets a definite length and no end-of-octets -/
theorem wrapTags_single (indefOk dm isCons : Bool) (t : Tag) (sub : Bytes) :
    Asn1.wrapTags indefOk dm isCons true [t] sub =
      (if isCons && !dm && indefOk then .ok (Asn1.encodeTag t isCons ++ [0x80] ++ sub ++ [0, 0])
       else match Asn1.encodeLength sub.length with
         | some l => .ok (Asn1.encodeTag t isCons ++ l ++ sub ++ (if isCons && !dm then [0, 0] else []))
         | none => .error .refused) := by
  have hdov : (if true && !isCons then true else dm) = !(isCons && !dm) := by cases isCons <;> cases dm <;> rfl
  rw [Asn1.wrapTags, hdov, encLen]
  generalize (isCons && !dm) = indef
  cases indef
  · cases Asn1.encodeLength sub.length <;> rfl
  · cases indefOk
    -- the indefinite form asked for but not supported: a definite length, end-of-octets all the same
    · cases Asn1.encodeLength sub.length <;> rfl
    · rfl

theorem wrap_prim_kernel (indefOk : Bool) (num : Nat) (c l : Bytes) (hl : Asn1.encodeLength c.length = some l) :
    GenK.wrapTags indefOk false [[0, 0, (num : Int)]] true (bytesInts c) false false =
      .ok (bytesInts (Asn1.encodeTag ⟨.universal, false, num⟩ false ++ l ++ c)) := by
  refine (wrapTags_kernel indefOk false true false false ⟨.universal, false, num⟩ [] c).trans ?_
  rw [wrapTags_single]
  simp only [Bool.false_and, Bool.and_false, Bool.false_eq_true, if_false, hl, List.append_nil, liftLen]

end Asn1.Kernels
