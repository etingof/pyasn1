/-
  Proofs.ContainerChoice — CHOICE objects: the shape invariant (at most one alternative) is kept by
  every operation, and under it the object refines the option prototype.  Under the invariant an
  object is one of three things — no component list, an empty one, or `single n k c`: the list
  padded to the `n` alternatives whose only filled slot is the chosen `k` — and on these both sides
  compute.
-/
import Asn1.Container
import Proofs.ContainerRec

namespace Asn1.Container
open OptionSpec

def single (n k : Nat) (c : Comp) : List Comp := (List.replicate n Comp.hole).set k c

theorem single_length (n k : Nat) (c : Comp) : (single n k c).length = n := by simp [single]

theorem single_get (n k : Nat) (c : Comp) (j : Nat) :
    (single n k c)[j]? = if j < n then (if k = j then some c else some Comp.hole) else none := by
  rw [single, List.getElem?_set, List.length_replicate, List.getElem?_replicate]
  by_cases hkj : k = j
  · subst hkj; simp
  · simp [hkj]

theorem single_get_self {n k : Nat} (c : Comp) (hk : k < n) : (single n k c)[k]? = some c := by
  rw [single_get, if_pos hk, if_pos rfl]

theorem single_ne_nil {n k : Nat} (c : Comp) (hk : k < n) : single n k c ≠ [] := fun h => by
  have := single_length n k c
  rw [h] at this
  cases this
  exact absurd hk (Nat.not_lt_zero k)

variable {n : Nat} {st : ChoiceSt}

theorem inv_single (c : Comp) {k : Nat} (hk : k < n) (hc : c ≠ .hole) :
    Choice.Inv n ⟨some (single n k c), some k⟩ := by
  unfold Choice.Inv
  simp only
  refine ⟨single_length n k c, hk, fun c' h => ?_, fun j hjk hj => ?_⟩
  · rw [single_get_self c hk] at h; cases h; exact hc
  · rw [single_get, if_pos hj, if_neg (Ne.symm hjk)]

theorem inv_fresh (n : Nat) : Choice.Inv n ⟨some [], none⟩ := trivial

theorem inv_cases (h : Choice.Inv n st) :
    st = ⟨none, none⟩ ∨ st = ⟨some [], none⟩ ∨
    ∃ k c, k < n ∧ c ≠ .hole ∧ st = ⟨some (single n k c), some k⟩ := by
  obtain ⟨comps, cur⟩ := st
  cases comps with
  | none => cases cur with
    | none => exact .inl rfl
    | some k => exact h.elim
  | some l =>
    cases cur with
    | none =>
      cases l with
      | nil => exact .inr (.inl rfl)
      | cons x xs => exact h.elim
    | some k =>
      simp only [Choice.Inv] at h
      obtain ⟨hlen, hk, hck, hrest⟩ := h
      obtain ⟨c, hc⟩ : ∃ c, l[k]? = some c := ⟨_, List.getElem?_eq_getElem (hlen ▸ hk)⟩
      refine .inr (.inr ⟨k, c, hk, hck c hc, ?_⟩)
      congr 2
      refine List.ext_getElem? fun j => ?_
      rw [single_get]
      by_cases hj : j < n
      · by_cases hkj : k = j
        · rw [if_pos hj, if_pos hkj, ← hkj, hc]
        · rw [if_pos hj, if_neg hkj, hrest j (Ne.symm hkj) hj]
      · rw [if_neg hj, List.getElem?_eq_none (hlen ▸ Nat.le_of_not_lt hj)]

theorem chosen_single (c : Comp) {k : Nat} (hk : k < n) :
    Choice.chosen ⟨some (single n k c), some k⟩ = some c := single_get_self c hk

theorem absO_single (c : Comp) {k : Nat} (hk : k < n) :
    Choice.absO ⟨some (single n k c), some k⟩ = ⟨true, true, some (k, c.get?)⟩ := by
  rw [Choice.absO, chosen_single c hk]
  cases h : single n k c with
  | nil => exact absurd h (single_ne_nil c hk)
  | cons x xs => rfl

theorem sim_single {k : Nat} {c : Comp} (hk : k < n) (hc : c ≠ .hole) (b : Out) :
    Sim Choice.absO (Choice.Inv n) (⟨some (single n k c), some k⟩, b) (⟨true, true, some (k, c.get?)⟩, b) :=
  ⟨rfl, absO_single c hk, inv_single c hk hc⟩

theorem slot_single (k : Nat) (c : Comp) (i : Int) :
    Rec.slot (single n k c) i = (pyIdx n i).map fun j => if k = j then c else .hole := by
  rw [slot_shape (.inr (single_length n k c))]
  cases hj : pyIdx n i with
  | none => rfl
  | some j =>
    rw [Option.bind_some, single_get, if_pos (pyIdx_lt hj)]
    exact (apply_ite some _ _ _).symm

theorem selComp_get {c : Comp} (hc : c ≠ .hole) : selComp c.get? = c := by
  cases c with
  | hole => exact absurd rfl hc
  | ph | val z => rfl

theorem altFields_length (n : Nat) : (Choice.altFields n).length = n := List.length_replicate

theorem altFields_get {n k : Nat} (h : k < n) : (Choice.altFields n)[k]? = some FK.req :=
  List.getElem?_replicate.trans (if_pos h)

/-- **assignment selects**: under the invariant the result holds exactly the assigned alternative -/
theorem choice_setAt (hinv : Choice.Inv n st) (hn : n ≠ 0) (i : Int) (a : Option Arg) :
    Choice.setAt n st i a = (pyIdx n i).bind fun k =>
      (Rec.stored .req a).map fun c => ⟨some (single n k c), some k⟩ := by
  unfold Choice.setAt
  cases hk : pyIdx n i with
  | none => cases Rec.setAt (Choice.altFields n) ⟨st.comps, 0⟩ i a <;> rfl
  | some k =>
    have hkl := pyIdx_lt hk
    rw [rec_setAt_decl (fields := Choice.altFields n) _ (by rwa [altFields_length]) (by rwa [altFields_length])
      (altFields_get hkl), altFields_length]
    cases Rec.stored .req a with
    | none => rfl
    | some c =>
      simp only [Option.map_some, Option.bind_some, Option.getD_some, setNth_eq_set]
      rcases inv_cases hinv with rfl | rfl | ⟨k0, c0, hk0, -, rfl⟩
      · simp only [Option.getD_none, slot_nil, Option.isSome_none, Bool.false_eq_true, if_false]; rfl
      · simp only [Option.getD_some, slot_nil, Option.isSome_none, Bool.false_eq_true, if_false]; rfl
      · -- the old alternative `k0` is overwritten (`k0 = k`) or dropped
        simp only [Option.getD_some, slot_single, hk, Option.map_some, Option.isSome_some, if_true]
        unfold single
        by_cases h0 : k0 = k
        · rw [if_neg (not_not_intro h0), h0, List.set_set]
        · rw [if_pos h0, List.set_comm _ _ h0, List.set_set, List.set_comm _ _ (Ne.symm h0),
            List.set_replicate_self]

theorem option_setAt (n : Nat) (i : Int) (a : Option Arg) :
    OptionSpec.setAt n i a = (pyIdx n i).bind fun k =>
      (Rec.stored .req a).map fun c => ⟨true, true, some (k, c.get?)⟩ := by
  unfold OptionSpec.setAt
  cases pyIdx n i with
  | none => rfl
  | some k =>
    cases a with
    | none => rfl
    | some a => cases a <;> rfl

theorem choice_setOut (hinv : Choice.Inv n st) (hn : n ≠ 0) {p p' : Option Int} (hp : p = p') (a : Option Arg)
    (err : Out) :
    Sim Choice.absO (Choice.Inv n) (Choice.setOut n st p a err) (OptionSpec.setOut n (Choice.absO st) p' a err) := by
  subst hp
  cases p with
  | none => exact Sim.same hinv err
  | some i =>
    simp only [Choice.setOut, OptionSpec.setOut, choice_setAt hinv hn, option_setAt]
    cases hk : pyIdx n i with
    | none => exact Sim.same hinv err
    | some k =>
      cases hc : Rec.stored .req a with
      | none => exact Sim.same hinv err
      | some c =>
        have hne : c ≠ .hole := by rintro rfl; cases (stored_shape hc).1
        exact sim_single (pyIdx_lt hk) hne _

theorem slot_single_getD (k : Nat) (c : Comp) (i : Int) :
    (Rec.slot (single n k c) i).getD .hole = if pyIdx n i = some k then c else .hole := by
  rw [slot_single]
  cases pyIdx n i with
  | none => rfl
  | some j =>
    by_cases hkj : k = j
    · subst hkj; simp
    · simp [hkj, Ne.symm hkj]

/-- **touching selects**: instantiating a position that holds nothing selects it (and drops what was
    chosen), or raises outside the alternatives -/
theorem choice_touch (hinv : Choice.Inv n st) (hn : n ≠ 0) (i : Int) :
    Sim Choice.absO (Choice.Inv n)
      (match Choice.setAt n st i none with
        | none => (st, Out.libErr)
        | some st' => (st', .comp ((st'.comps.bind (fun l => Rec.slot l i)).getD .hole)))
      (match pyIdx n i with
        | some j => (⟨true, true, some (j, none)⟩, .comp .ph)
        | none => (Choice.absO st, .libErr)) := by
  rw [choice_setAt hinv hn]
  cases hj : pyIdx n i with
  | none => exact Sim.same hinv _
  | some j =>
    have hjl := pyIdx_lt hj
    refine ⟨congrArg Out.comp ?_, absO_single .ph hjl, inv_single .ph hjl nofun⟩
    simp only [Rec.typeObj, Option.bind_some, slot_single_getD, hj, if_true]

/-- reading a position: the chosen alternative is returned as it is; any other position reads as
    nothing, or is touched -/
theorem choice_getAt (hinv : Choice.Inv n st) (hn : n ≠ 0) (i : Int) (inst : Bool) :
    Sim Choice.absO (Choice.Inv n) (Choice.getAt n st i inst) (OptionSpec.getAt n (Choice.absO st) i inst) := by
  have touch := choice_touch hinv hn i
  unfold Choice.getAt OptionSpec.getAt
  rcases inv_cases hinv with rfl | rfl | ⟨k, c, hk, hc, rfl⟩
  · cases inst
    · exact Sim.same hinv _
    · exact touch
  · simp only [Option.bind_some, slot_nil]
    cases inst
    · exact Sim.same hinv _
    · exact touch
  · rw [absO_single c hk] at touch ⊢
    simp only [Option.bind_some, slot_single_getD, Option.isSome_some, true_and, Option.map_some, Option.some.injEq]
    by_cases hki : (k : Int) = i
    · subst hki
      simp only [if_true, pyIdx_nat hk, selComp_get hc]
      exact sim_single hk hc _
    · simp only [hki, if_false]
      by_cases hjk : pyIdx n i = some k
      · -- the chosen alternative, reached through another index (a negative one)
        simp only [hjk, if_true]
        cases c with
        | hole => exact absurd rfl hc
        | ph | val z => cases inst <;> exact sim_single hk hc _
      · simp only [hjk, if_false]
        cases inst
        · exact sim_single hk hc _
        · exact touch

theorem posOf_eq (n k : Nat) : Choice.posOf n k = OptionSpec.posOf n k := rfl

theorem filter_replicate_hole (p : Comp → Bool) (hp : p .hole = false) (m j : Nat) :
    (enumFrom j (List.replicate m Comp.hole)).filter (fun kv => p kv.2) = [] := by
  induction m generalizing j with
  | zero => rfl
  | succ m ih => simp only [List.replicate_succ, enumFrom, List.filter_cons, hp, Bool.false_eq_true, if_false, ih]

theorem filter_single (p : Comp → Bool) (hp : p .hole = false) (n k j : Nat) (c : Comp) :
    (enumFrom j (single n k c)).filter (fun kv => p kv.2) =
      if k < n ∧ p c = true then [(j + k, c)] else [] := by
  unfold single
  induction n generalizing k j with
  | zero => simp [enumFrom]
  | succ n ih =>
    cases k with
    | zero =>
      simp only [List.replicate_succ, List.set_cons_zero, enumFrom, List.filter_cons,
        filter_replicate_hole p hp]
      cases hcv : p c <;> simp
    | succ k =>
      simp only [List.replicate_succ, List.set_cons_succ, enumFrom, List.filter_cons, hp,
        Bool.false_eq_true, if_false]
      rw [ih k (j + 1)]
      simp only [Nat.add_lt_add_iff_right, show j + 1 + k = j + (k + 1) by omega]

/-- accessors that never touch the object -/
def pureReader : ChoiceOp → Bool
  | .len | .keys | .contains _ | .values | .items | .getComponent | .getChosenName | .pretty | .eqTo _ _
  | .encode => true
  | _ => false

theorem choice_reader (n : Nat) (st : ChoiceSt) (op : ChoiceOp) (hr : pureReader op = true) :
    (Choice.step n st op).1 = st := by
  cases op with
  | len | keys | contains _ | values | encode => rfl
  | items | getComponent | getChosenName | pretty => dsimp only [Choice.step]; split <;> rfl
  | eqTo _ _ =>
    -- every branch answers `(st, _)`
    dsimp only [Choice.step]
    repeat' split
    all_goals rfl
  | _ => cases hr

theorem choice_reader_sim (hinv : Choice.Inv n st) (op : ChoiceOp) (hr : pureReader op = true) :
    Sim Choice.absO (Choice.Inv n) (Choice.step n st op) (OptionSpec.step n (Choice.absO st) op) := by
  rcases inv_cases hinv with rfl | rfl | ⟨k, c, hk, hc, rfl⟩
  · cases op with
    | len | keys | contains _ | values | items | getComponent | getChosenName | pretty | eqTo _ _ | encode =>
      exact Sim.same hinv _
    | _ => cases hr
  · cases op with
    | len | keys | contains _ | values | items | getComponent | getChosenName | pretty | eqTo _ _ | encode =>
      exact Sim.same hinv _
    | _ => cases hr
  · -- alternative `k` holds `c`, a value or a placeholder: both sides show `c`
    rw [absO_single c hk]
    cases op with
    | len | keys | contains _ | getChosenName | encode => exact sim_single hk hc _
    | values | items | getComponent =>
      dsimp only [Choice.step, OptionSpec.step]
      simp only [chosen_single c hk, Option.map_some, selComp_get hc, Option.toList_some]
      exact sim_single hk hc _
    | pretty =>
      dsimp only [Choice.step, OptionSpec.step]
      simp only [filter_single Comp.isVal rfl, hk, true_and, Nat.zero_add]
      cases c with
      | hole => exact absurd rfl hc
      | ph | val z => exact sim_single hk hc _
    | eqTo k' v =>
      cases hl : single n k c with
      | nil => exact absurd hl (single_ne_nil c hk)
      | cons x xs =>
        dsimp only [Choice.step, OptionSpec.step]
        simp only [← hl, chosen_single c hk]
        by_cases hkk : k ≠ k'
        · simp only [if_pos hkk]; exact sim_single hk hc _
        · simp only [if_neg hkk]
          cases c with
          | hole => exact absurd rfl hc
          | ph | val z => exact sim_single hk hc _
    | _ => cases hr

/-- a copy holds the chosen alternative, if there is one, and nothing else -/
theorem choice_clone (hinv : Choice.Inv n st) (flag : Bool) :
    Sim Choice.absO (Choice.Inv n) (Choice.step n st (.clone flag)) (OptionSpec.step n (Choice.absO st) (.clone flag)) := by
  rcases inv_cases hinv with rfl | rfl | ⟨k, c, hk, hc, rfl⟩
  · cases flag <;> exact Sim.same (inv_fresh n) _
  · cases flag <;> exact Sim.same (inv_fresh n) _
  · rw [absO_single c hk]
    cases flag with
    | false => exact Sim.same (inv_fresh n) _
    | true =>
      dsimp only [Choice.step]
      simp only [chosen_single c hk, setNth_eq_set]
      exact sim_single hk hc _

/-- **one step** of a CHOICE object against the option prototype; the invariant is kept by EVERY
    operation (no guard) -/
theorem choice_step (hinv : Choice.Inv n st) (hn : n ≠ 0) (op : ChoiceOp) :
    Sim Choice.absO (Choice.Inv n) (Choice.step n st op) (OptionSpec.step n (Choice.absO st) op) := by
  cases op with
  | setItemPos i a => exact choice_setOut hinv hn rfl (some a) .lookupErr
  | setItemName k a => exact choice_setOut hinv hn (posOf_eq n k) (some a) .lookupErr
  | setPos i a => exact choice_setOut hinv hn rfl (some a) .libErr
  | setName k a => exact choice_setOut hinv hn (posOf_eq n k) (some a) .libErr
  | setType k a => exact choice_setOut hinv hn (posOf_eq n k) (some a) .libErr
  | setNone i => exact choice_setOut hinv hn rfl none .libErr
  | clear => exact Sim.same (inv_fresh n) _
  | reset => exact ⟨rfl, rfl, trivial⟩
  | clone flag => exact choice_clone hinv flag
  | getItemPos i => exact (choice_getAt hinv hn i true).map Out.asLookup
  | getPos i inst => exact choice_getAt hinv hn i inst
  | getItemName k =>
    dsimp only [Choice.step, OptionSpec.step]
    exact Sim.lookup hinv (choice_getAt hinv hn · true) (posOf_eq n k) .lookupErr Out.asLookup
  | getName k inst | getType k inst =>
    dsimp only [Choice.step, OptionSpec.step]
    exact Sim.lookup hinv (choice_getAt hinv hn · inst) (posOf_eq n k) .libErr id
  | len | keys | contains _ | values | items | getComponent | getChosenName | pretty | eqTo _ _ | encode =>
    exact choice_reader_sim hinv _ rfl

theorem choice_run (hinv : Choice.Inv n st) (hn : n ≠ 0) (ops : List ChoiceOp) :
    Sim Choice.absO (Choice.Inv n) (Choice.run n st ops) (OptionSpec.run n (Choice.absO st) ops) :=
  Sim.run (run := Choice.run n) (run' := OptionSpec.run n) (ok := fun _ _ => True)
    (fun _ => rfl) (fun _ => rfl) (fun _ _ _ => rfl) (fun _ _ _ => rfl)
    (fun _ op _ hinv _ => ⟨choice_step hinv hn op, trivial⟩) ops st hinv trivial

theorem held_le_one (hinv : Choice.Inv n st) : Choice.held st ≤ 1 := by
  rcases inv_cases hinv with rfl | rfl | ⟨k, c, -, -, rfl⟩
  · exact Nat.zero_le 1
  · exact Nat.zero_le 1
  · change ((single n k c).filter fun c => !c.isHole).length ≤ 1
    rw [← filter_enumFrom_snd (fun c : Comp => !c.isHole) 0, filter_single (fun c => !c.isHole) rfl, List.length_map]
    split <;> simp

/-- ill-formed CHOICE operations: unknown name / tag, position outside the alternatives, a value
    the alternative refuses -/
def choiceIllFormed (n : Nat) : ChoiceOp → Bool
  | .setItemPos i a | .setPos i a => (pyIdx n i).isNone || a == .bad
  | .setItemName k a | .setName k a | .setType k a => decide (n ≤ k) || a == .bad
  | .setNone i => (pyIdx n i).isNone
  | .getItemPos i | .getPos i true => (pyIdx n i).isNone
  | .getItemName k | .getName k _ | .getType k _ => decide (n ≤ k)
  | _ => false

theorem choice_setAt_bad (st : ChoiceSt) (hn : n ≠ 0) (i : Int) (a : Option Arg)
    (h : (pyIdx n i).isNone = true ∨ a = some .bad) : Choice.setAt n st i a = none := by
  rw [Choice.setAt, rec_setAt_bad _ (by rwa [altFields_length]) i a (by rwa [altFields_length])]

theorem choice_setOut_ill (st : ChoiceSt) (hn : n ≠ 0) {p : Option Int} {a : Option Arg} {err : Out}
    (he : err.isErr = true) (h : (∀ i, p = some i → (pyIdx n i).isNone = true) ∨ a = some .bad) :
    (Choice.setOut n st p a err).2.isErr = true ∧ (Choice.setOut n st p a err).1 = st := by
  cases p with
  | none => exact ⟨he, rfl⟩
  | some i => rw [Choice.setOut, choice_setAt_bad st hn i a (h.imp (fun h => h i rfl) id)]; exact ⟨he, rfl⟩

/-- **ill-formed operations raise and change nothing** (CHOICE) -/
theorem choice_illformed (hinv : Choice.Inv n st) (hn : n ≠ 0) (op : ChoiceOp)
    (h : choiceIllFormed n op = true) :
    (Choice.step n st op).2.isErr = true ∧ (Choice.step n st op).1 = st := by
  have hname : ∀ k, n ≤ k → Choice.posOf n k = none := fun k hk => if_neg (Nat.not_lt.mpr hk)
  have hget : ∀ i, (pyIdx n i).isNone = true → Choice.getAt n st i true = (st, .libErr) := by
    intro i hi
    have hk : pyIdx n i = none := Option.isNone_iff_eq_none.mp hi
    have hbad := choice_setAt_bad st hn i none (.inl hi)
    unfold Choice.getAt
    rcases inv_cases hinv with rfl | rfl | ⟨k, c, hkn, -, rfl⟩
    · rw [hbad]; rfl
    · simp only [Option.bind_some, slot_nil, hbad]; rfl
    · have hne : ¬ (k : Int) = i := fun e => by rw [← e, pyIdx_nat hkn] at hk; cases hk
      simp only [Option.bind_some, slot_single, hk, Option.map_some, Option.some.injEq, hne, and_false,
        if_false, hbad]
      rfl
  cases op with
  | setItemPos i a | setPos i a =>
    dsimp only [choiceIllFormed] at h; simp only [Bool.or_eq_true, beq_iff_eq] at h
    dsimp only [Choice.step]
    exact choice_setOut_ill st hn rfl (h.imp (fun h j hj => Option.some.inj hj ▸ h) (congrArg some))
  | setNone i =>
    dsimp only [Choice.step]
    exact choice_setOut_ill st hn rfl (.inl fun j hj => Option.some.inj hj ▸ h)
  | setItemName k a | setName k a | setType k a =>
    dsimp only [choiceIllFormed] at h; simp only [Bool.or_eq_true, decide_eq_true_eq, beq_iff_eq] at h
    dsimp only [Choice.step]
    exact choice_setOut_ill st hn rfl (h.imp (fun h j hj => by rw [hname k h] at hj; cases hj) (congrArg some))
  | getItemPos i => dsimp only [Choice.step]; rw [hget i h]; exact ⟨rfl, rfl⟩
  | getPos i inst =>
    cases inst with
    | false => cases h
    | true => dsimp only [Choice.step]; rw [hget i h]; exact ⟨rfl, rfl⟩
  | getItemName k | getName k inst | getType k inst =>
    dsimp only [Choice.step]; rw [hname k (of_decide_eq_true h)]; exact ⟨rfl, rfl⟩
  | _ => cases h

theorem choice_abs_spec (st : ChoiceSt) : Choice.abs st = OptionSpec.abs (Choice.absO st) := by
  unfold Choice.abs OptionSpec.abs Choice.absO
  cases st.cur with
  | none => rfl
  | some k =>
    cases Choice.chosen st with
    | none => rfl
    | some c => cases c <;> rfl

end Asn1.Container
