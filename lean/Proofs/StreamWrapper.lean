/-
  Proofs.StreamWrapper — CachingStreamWrapper refines a seekable stream over the same octets.
  Invariant (`Sim`): `cache ++ rawRest` is the suffix of the data from the base position (the
  number of octets dropped so far), and cache position / mark agree with the reference stream's
  up to that renumbering offset.  Every operation the decoder is allowed to issue preserves it.
-/
import Asn1.Stream

namespace Asn1.Stream

/-- operations that do not name an absolute position (absolute positions are renumbered by a drop) -/
def WOp.relative : WOp → Bool
  | .seekSet _ => false
  | _ => true

/-- a position reported by the wrapper, translated back by the renumbering offset -/
def WOut.shift (k : Nat) : WOut → WOut
  | .nat n => .nat (n + k)
  | o => o

/-- outputs of a history with every reported position translated by the offset in force -/
def Wrapper.runOpsAbs (B : Nat) : Wrapper → List WOp → List WOut
  | _, [] => []
  | w, op :: ops => let r := w.step B op; r.1.shift r.2.dropped :: Wrapper.runOpsAbs B r.2 ops

structure Sim (w : Wrapper) (r : Ref) : Prop where
  cpos_le : w.cpos ≤ w.cache.length
  data : r.data.drop w.dropped = w.cache ++ w.raw
  pos : w.dropped + w.cpos = r.pos
  mark : w.dropped + w.mark = r.mark
  mark_le : w.mark ≤ w.cpos

theorem bioWrite_end (buf x : Bytes) : bioWrite buf buf.length x = buf ++ x := by
  simp [bioWrite]

theorem Sim.rest {w : Wrapper} {r : Ref} (h : Sim w r) :
    r.data.drop r.pos = w.cache.drop w.cpos ++ w.raw := by
  rw [← h.pos, ← List.drop_drop, h.data, List.drop_append_of_le_length h.cpos_le]

theorem Sim.init (d : Bytes) : Sim { raw := d } { data := d } :=
  ⟨by simp, by simp, by simp, by simp, by simp⟩

/-! Every operation is made of three moves, each of which keeps the invariant: octets pass from the
raw stream to the end of the cache, the cache position moves somewhere between the mark and the end
of the cache, the mark is set at the cache position (with or without dropping what lies before). -/

theorem Sim.fill {w : Wrapper} {r : Ref} (h : Sim w r) {x y : Bytes} (hxy : w.raw = x ++ y) :
    Sim { w with cache := w.cache ++ x, raw := y } r :=
  ⟨by have := h.cpos_le; simp only [List.length_append]; omega,
   by rw [List.append_assoc, ← hxy]; exact h.data, h.pos, h.mark, h.mark_le⟩

theorem Sim.seek {w : Wrapper} {r : Ref} (h : Sim w r) {c p : Nat} (hm : w.mark ≤ c)
    (hc : c ≤ w.cache.length) (hp : w.dropped + c = p) :
    Sim { w with cpos := c } { r with pos := p } :=
  ⟨hc, h.data, hp, h.mark, hm⟩

theorem Sim.setMark {w : Wrapper} {r : Ref} (h : Sim w r) :
    Sim { w with mark := w.cpos } { r with mark := r.pos } :=
  ⟨h.cpos_le, h.data, h.pos, h.pos, Nat.le_refl _⟩

theorem Sim.drop {w : Wrapper} {r : Ref} (h : Sim w r) :
    Sim { w with cache := w.cache.drop w.cpos, cpos := 0, mark := 0, dropped := w.dropped + w.cpos }
      { r with mark := r.pos } :=
  ⟨Nat.zero_le _, by rw [← List.drop_drop, h.data, List.drop_append_of_le_length h.cpos_le],
   h.pos, h.pos, Nat.le_refl _⟩

theorem cpos_add_rest (w : Wrapper) (hc : w.cpos ≤ w.cache.length) :
    w.cpos + (w.cache.drop w.cpos).length = w.cache.length := by
  rw [List.length_drop, Nat.add_sub_cancel' hc]

theorem read_full (w : Wrapper) (n : Nat) (hle : n ≤ (w.cache.drop w.cpos).length) :
    w.read n = ((w.cache.drop w.cpos).take n, { w with cpos := w.cpos + n }) := by
  unfold Wrapper.read bioRead
  simp only [List.length_take_of_le hle, if_true]

theorem read_short (w : Wrapper) (n : Nat) (hlt : (w.cache.drop w.cpos).length < n)
    (hc : w.cpos ≤ w.cache.length) :
    w.read n =
      (w.cache.drop w.cpos ++ w.raw.take (n - (w.cache.drop w.cpos).length),
        { w with cache := w.cache ++ w.raw.take (n - (w.cache.drop w.cpos).length),
                 cpos := w.cache.length + (w.raw.take (n - (w.cache.drop w.cpos).length)).length,
                 raw := w.raw.drop (n - (w.cache.drop w.cpos).length) }) := by
  unfold Wrapper.read bioRead
  have htake : (w.cache.drop w.cpos).take n = w.cache.drop w.cpos :=
    List.take_of_length_le (Nat.le_of_lt hlt)
  have hne : ¬ ((w.cache.drop w.cpos).length = n) := Nat.ne_of_lt hlt
  simp only [htake, hne, if_false, cpos_add_rest w hc, bioWrite_end]

theorem read_spec (w : Wrapper) (r : Ref) (n : Nat) (h : Sim w r) :
    (w.read n).1 = bioRead r.data r.pos n ∧
      Sim (w.read n).2 { r with pos := r.pos + (bioRead r.data r.pos n).length } ∧
      (w.read n).2.dropped = w.dropped ∧ (w.read n).2.mark = w.mark ∧
      (w.read n).2.cpos = w.cpos + (w.read n).1.length := by
  have hc := h.cpos_le
  have hp := h.pos
  have hm := h.mark_le
  have hlen : (w.cache.drop w.cpos).length = w.cache.length - w.cpos := List.length_drop
  unfold bioRead
  rw [h.rest]
  by_cases hle : n ≤ (w.cache.drop w.cpos).length
  · rw [read_full w n hle, List.take_append_of_le_length hle]
    rw [List.length_take_of_le hle]
    exact ⟨rfl, h.seek (Nat.le_add_right_of_le hm) (Nat.add_le_of_le_sub' hc (hlen ▸ hle))
      (by rw [← Nat.add_assoc, hp]), rfl, rfl, rfl⟩
  · have hout : (w.cache.drop w.cpos ++ w.raw).take n =
        w.cache.drop w.cpos ++ w.raw.take (n - (w.cache.drop w.cpos).length) := by
      rw [List.take_append, List.take_of_length_le (Nat.le_of_not_le hle)]
    rw [read_short w n (Nat.lt_of_not_le hle) hc, hout]
    generalize n - (w.cache.drop w.cpos).length = m
    have hl : w.cache.length + (w.raw.take m).length =
        w.cpos + (w.cache.drop w.cpos ++ w.raw.take m).length := by
      rw [List.length_append, ← Nat.add_assoc, cpos_add_rest w hc]
    exact ⟨rfl, (h.fill (List.take_append_drop m w.raw).symm).seek
      (Nat.le_add_right_of_le (Nat.le_trans hm hc)) (Nat.le_of_eq (List.length_append).symm)
      (by rw [hl, ← Nat.add_assoc, hp]), rfl, rfl, hl⟩

theorem readAll_eq (w : Wrapper) (hc : w.cpos ≤ w.cache.length) :
    w.readAll = (w.cache.drop w.cpos ++ w.raw,
      { w with cache := w.cache ++ w.raw, cpos := w.cache.length + w.raw.length, raw := [] }) := by
  unfold Wrapper.readAll
  simp only [cpos_add_rest w hc, bioWrite_end]

theorem readAll_spec (w : Wrapper) (r : Ref) (h : Sim w r) :
    w.readAll.1 = r.data.drop r.pos ∧
      Sim w.readAll.2 { r with pos := r.pos + (r.data.drop r.pos).length } ∧
      w.readAll.2.dropped = w.dropped := by
  have hc := h.cpos_le
  have hp := h.pos
  rw [readAll_eq w hc, h.rest]
  exact ⟨rfl, (h.fill (List.append_nil _).symm).seek
    (Nat.le_add_right_of_le (Nat.le_trans h.mark_le hc)) (Nat.le_of_eq (List.length_append).symm)
    (by simp only [List.length_append, List.length_drop]; omega), rfl⟩

/-- one permitted operation: the invariant is preserved and the outputs agree (positions up to the
    renumbering offset) -/
theorem step_sim (B : Nat) (w : Wrapper) (r : Ref) (op : WOp) (h : Sim w r)
    (hpre : r.pre op = true) (hrel : op.relative = true ∨ w.dropped = 0) :
    Sim (w.step B op).2 (r.step op).2 ∧
      (w.step B op).1.shift (w.step B op).2.dropped = (r.step op).1 := by
  have hc := h.cpos_le
  have hml := h.mark_le
  have hp : w.cpos + w.dropped = r.pos := Nat.add_comm _ _ ▸ h.pos
  have hm : w.mark + w.dropped = r.mark := Nat.add_comm _ _ ▸ h.mark
  cases op with
  | read n => exact ⟨(read_spec w r n h).2.1, congrArg WOut.bytes (read_spec w r n h).1⟩
  | readAll => exact ⟨(readAll_spec w r h).2.1, congrArg WOut.bytes (readAll_spec w r h).1⟩
  | peek n =>
    -- a read, then the cache position goes back to where it was
    obtain ⟨h1, h2, h3, h4, h5⟩ := read_spec w r n h
    refine ⟨?_, congrArg WOut.bytes h1⟩
    show Sim { (w.read n).2 with cpos := (w.read n).2.cpos - (w.read n).1.length } r
    rw [h5, Nat.add_sub_cancel]
    exact h2.seek (h4 ▸ hml) (Nat.le_trans (h5 ▸ Nat.le_add_right _ _) h2.cpos_le) (h3 ▸ h.pos)
  | seekSet p =>
    have hd : w.dropped = 0 := hrel.resolve_left (by simp [WOp.relative])
    simp only [Ref.pre, Bool.and_eq_true, decide_eq_true_eq] at hpre
    -- nothing was dropped, so the wrapper's positions are the reference's
    rw [hd, Nat.add_zero] at hp hm
    have hq : w.dropped + p = p := by rw [hd, Nat.zero_add]
    exact ⟨h.seek (hm ▸ hpre.1) (Nat.le_trans (hp ▸ hpre.2) hc) hq,
      congrArg WOut.nat (Nat.add_comm _ _ ▸ hq)⟩
  | seekCur k =>
    simp only [Ref.pre, Bool.and_eq_true, decide_eq_true_eq] at hpre
    -- the precondition on the wrapper's side, without subtraction
    have hk : w.mark + k ≤ w.cpos := by
      have := (Nat.le_sub_iff_add_le hpre.1).mp hpre.2
      omega
    have hk1 : k ≤ w.cpos := Nat.le_trans (Nat.le_add_left ..) hk
    have hq : w.dropped + (w.cpos - k) = r.pos - k := by rw [← Nat.add_sub_assoc hk1, h.pos]
    dsimp only [Wrapper.step, Ref.step]
    rw [if_pos hk1, if_pos hpre.1]
    exact ⟨h.seek (Nat.le_sub_of_add_le hk) (Nat.le_trans (Nat.sub_le ..) hc) hq,
      congrArg WOut.nat (Nat.add_comm _ _ ▸ hq)⟩
  | seekMark => exact ⟨h.seek (Nat.le_refl _) (Nat.le_trans hml hc) h.mark, congrArg WOut.nat hm⟩
  | tell => exact ⟨h, congrArg WOut.nat hp⟩
  | setMark =>
    dsimp only [Wrapper.step]
    split
    · exact ⟨h.drop, rfl⟩
    · exact ⟨h.setMark, rfl⟩
  | getMark => exact ⟨h, congrArg WOut.nat hm⟩

/-- **the wrapper refines the seekable reference** for every history of permitted operations that
    name positions relatively (reads, peeks, tell, set mark, seek back by k, seek to the mark):
    identical octets, and positions identical up to the renumbering offset -/
theorem runOpsAbs_eq (B : Nat) : ∀ (ops : List WOp) (w : Wrapper) (r : Ref), Sim w r →
    r.preAll ops = true → (∀ op ∈ ops, op.relative = true) →
    Wrapper.runOpsAbs B w ops = Ref.runOps r ops
  | [], _, _, _, _, _ => rfl
  | op :: ops, w, r, h, hpre, hrel => by
    simp only [Ref.preAll, Bool.and_eq_true] at hpre
    obtain ⟨h1, h2⟩ := step_sim B w r op h hpre.1 (Or.inl (hrel op (by simp)))
    simp only [Wrapper.runOpsAbs, Ref.runOps]
    rw [h2, runOpsAbs_eq B ops _ _ h1 hpre.2 (fun o ho => hrel o (by simp [ho]))]

theorem WOut.shift_zero (o : WOut) : o.shift 0 = o := by cases o <;> rfl

/-- only a mark set more than `B` octets into the cache drops anything -/
theorem step_dropped (B : Nat) (w : Wrapper) (op : WOp) (h : op = .setMark → w.cpos ≤ B) :
    (w.step B op).2.dropped = w.dropped := by
  cases op with
  | read n | peek n => dsimp only [Wrapper.step, Wrapper.read]; split <;> rfl
  | seekCur k => dsimp only [Wrapper.step]; split <;> rfl
  | setMark => dsimp only [Wrapper.step]; rw [if_neg (Nat.not_lt.mpr (h rfl))]
  | _ => rfl

/-- no drop: every reported position is the reference's, absolute seeks included -/
theorem runOps_eq_nodrop (B : Nat) : ∀ (ops : List WOp) (w : Wrapper) (r : Ref), Sim w r →
    w.dropped = 0 → r.preAll ops = true → r.noDrop B ops = true →
    Wrapper.runOps B w ops = Ref.runOps r ops
  | [], _, _, _, _, _, _ => rfl
  | op :: ops, w, r, h, hd, hpre, hnd => by
    simp only [Ref.preAll, Bool.and_eq_true] at hpre
    simp only [Ref.noDrop, Bool.and_eq_true, Bool.or_eq_true, bne_iff_ne, ne_eq,
      decide_eq_true_eq] at hnd
    obtain ⟨h1, h2⟩ := step_sim B w r op h hpre.1 (Or.inr hd)
    have hd' : (w.step B op).2.dropped = 0 := by
      rw [step_dropped B w op fun e => ?_, hd]
      have := h.pos
      have := hnd.1.resolve_left fun hne => hne e
      omega
    rw [hd', WOut.shift_zero] at h2
    simp only [Wrapper.runOps, Ref.runOps]
    rw [h2, runOps_eq_nodrop B ops _ _ h1 hd' hpre.2 hnd.2]

/-- what the renumbering does: after reading more than `B` octets, setting the mark makes `tell()`
    restart from 0, while the seekable stream reports the true position -/
theorem renumber_witness (B : Nat) (d : Bytes) (hd : B + 1 ≤ d.length) :
    Wrapper.runOps B { raw := d } [.read (B + 1), .setMark, .tell] =
      [.bytes (d.take (B + 1)), .unit, .nat 0] ∧
    Ref.runOps { data := d } [.read (B + 1), .setMark, .tell] =
      [.bytes (d.take (B + 1)), .unit, .nat (B + 1)] := by
  constructor
  · simp only [Wrapper.runOps, Wrapper.step, Wrapper.read, bioRead]
    simp [bioWrite, List.length_take, Nat.min_eq_left hd]
  · simp only [Ref.runOps, Ref.step, bioRead]
    simp [List.length_take, Nat.min_eq_left hd]

end Asn1.Stream
