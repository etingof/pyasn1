/-
  Proofs.Res — decoder results (`Res α = Except Err α`): how `bind` and `map` act on the two
  constructors, what a successful `bind`/`map` was made of, and results that ran out of fuel.
-/
import Asn1.Basic

namespace Asn1

@[simp] theorem Res.bind_ok {α β : Type} (a : α) (k : α → Res β) : (Except.ok a : Res α).bind k = k a := rfl
@[simp] theorem Res.bind_error {α β : Type} (e : Err) (k : α → Res β) :
    (Except.error e : Res α).bind k = .error e := rfl
@[simp] theorem Res.map_ok {α β : Type} (a : α) (g : α → β) : (Except.ok a : Res α).map g = .ok (g a) := rfl
@[simp] theorem Res.map_error {α β : Type} (e : Err) (g : α → β) :
    (Except.error e : Res α).map g = .error e := rfl

theorem Res.map_eq_ok {α β} {f : α → β} {r : Except Err α} {w : β} :
    Except.map f r = .ok w ↔ ∃ v, r = .ok v ∧ f v = w := by
  cases r <;> simp [Except.map]

theorem Res.bind_eq_ok {α β} {r : Res α} {k : α → Res β} {w : β} :
    r.bind k = .ok w ↔ ∃ v, r = .ok v ∧ k v = .ok w := by
  cases r <;> simp [Except.bind]

theorem Res.map_ok_of {α β} {x y : Res α} {g : α → β} {r : β}
    (hxy : ∀ a, x = .ok a → y = .ok a) (h : x.map g = .ok r) : y.map g = .ok r := by
  obtain ⟨a, ha, rfl⟩ := Res.map_eq_ok.mp h
  rw [hxy a ha]; rfl

theorem Res.ite_eq_ok {α} {c : Prop} [Decidable c] {r : Res α} {e : Err} {w : α} :
    (if c then r else .error e) = .ok w ↔ c ∧ r = .ok w := by
  by_cases h : c <;> simp [h]

theorem Res.err_ite_eq_ok {α} {c : Prop} [Decidable c] {r : Res α} {e : Err} {w : α} :
    (if c then .error e else r) = .ok w ↔ ¬c ∧ r = .ok w := by
  by_cases h : c <;> simp [h]

theorem Res.error_of_not_ok {α} {r : Res α} (h : ∀ w, r ≠ .ok w) : ∃ e, r = .error e := by
  cases r with
  | error e => exact ⟨e, rfl⟩
  | ok w => exact absurd rfl (h w)

/-- `r'` is `r`, unless `r` ran out of fuel: how the answer with more fuel relates to the answer with less -/
def FuelExt {α} (r r' : Res α) : Prop := r ≠ .error .fuel → r' = r

theorem FuelExt.refl {α} (r : Res α) : FuelExt r r := fun _ => rfl

theorem FuelExt.bind {α β : Type} {x x' : Res α} {k k' : α → Res β} (hx : FuelExt x x')
    (hk : ∀ a, FuelExt (k a) (k' a)) : FuelExt (x.bind k) (x'.bind k') := by
  intro h
  cases x with
  | error e => rw [hx fun he => h (by rw [he]; rfl)]; rfl
  | ok a => rw [hx nofun]; exact hk a h

theorem FuelExt.map {α β : Type} {x x' : Res α} (g : α → β) (hx : FuelExt x x') :
    FuelExt (x.map g) (x'.map g) := by
  intro h
  rw [hx fun he => h (by rw [he]; rfl)]

theorem FuelExt.ite {α : Type} (c : Prop) [Decidable c] {a a' b b' : Res α} (ha : FuelExt a a')
    (hb : FuelExt b b') : FuelExt (if c then a else b) (if c then a' else b') := by
  split
  · exact ha
  · exact hb

theorem Res.bind_ne_fuel {α β : Type} {x : Res α} {k : α → Res β} (hx : x ≠ .error .fuel)
    (hk : ∀ a, x = .ok a → k a ≠ .error .fuel) : x.bind k ≠ .error .fuel := by
  cases x with
  | error e => exact fun h => hx (by rw [Except.error.inj h])
  | ok a => exact hk a rfl

theorem Res.map_ne_fuel {α β : Type} {x : Res α} (g : α → β) (hx : x ≠ .error .fuel) :
    x.map g ≠ .error .fuel := by
  cases x with
  | error e => exact fun h => hx (by rw [Except.error.inj h])
  | ok a => exact nofun

theorem Res.ite_ne_fuel {α : Type} (c : Prop) [Decidable c] {a b : Res α} (ha : a ≠ .error .fuel)
    (hb : b ≠ .error .fuel) : (if c then a else b) ≠ .error .fuel := by
  split
  · exact ha
  · exact hb

end Asn1
