/-
  Proofs.NativeText — text forms used by the native codec: '0101' of a BIT STRING and the dotted
  form of an OBJECT IDENTIFIER read back to what was printed.
-/
import Asn1.Native
import Proofs.TimeDigits

namespace Asn1.Native

open Asn1.Time

/-- `fromBinaryString(asBinary(bits)) = bits`, including the empty bit string -/
theorem parseBits_bitsText (bs : List Bool) : parseBits (bitsText bs) = .ok bs := by
  induction bs with
  | nil => rfl
  | cons b r ih =>
    simp only [bitsText, List.map] at ih ⊢
    cases b <;> simp [parseBits, ih, Except.map]

theorem splitDots_ne_nil (s : List Char) : splitDots s ≠ [] := by
  induction s with
  | nil => simp [splitDots]
  | cons c r ih =>
    rw [splitDots]
    split
    · simp
    · split <;> simp

theorem dig_ne_dot {c : Char} (h : isDig c = true) : c ≠ '.' := isDig_ne h (by decide)
theorem dig_ne_minus {c : Char} (h : isDig c = true) : c ≠ '-' := isDig_ne h (by decide)

/-- a digit string has no '.' to split at -/
theorem splitDots_allDig {s : List Char} (hs : AllDig s) : splitDots s = [s] := by
  induction s with
  | nil => rfl
  | cons c r ih =>
    rw [splitDots, ih hs.tail]
    simp [dig_ne_dot hs.head]

theorem splitDots_dig_dot {s : List Char} (hs : AllDig s) (r : List Char) :
    splitDots (s ++ '.' :: r) = s :: splitDots r := by
  induction s with
  | nil =>
    simp only [List.nil_append]
    rw [splitDots]
    cases h : splitDots r with
    | nil => exact absurd h (splitDots_ne_nil r)
    | cons a as => simp
  | cons c t ih =>
    simp only [List.cons_append]
    rw [splitDots, ih hs.tail]
    simp [dig_ne_dot hs.head]

theorem splitDots_oidText (a : Nat) (rest : List Nat) :
    splitDots (oidText (a :: rest)) = (a :: rest).map dec := by
  induction rest generalizing a with
  | nil => simp [oidText, splitDots_allDig (allDig_dec a)]
  | cons b r ih =>
    rw [oidText, splitDots_dig_dot (allDig_dec a), ih b]
    · simp
    · simp

/-- `int(str(n)) = n` -/
theorem pyInt_dec (n : Nat) : pyInt (dec n) = some (Int.ofNat n) := by
  rw [pyInt_allDig (allDig_dec n) (dec_ne_nil n), digitsVal_dec]

theorem intsOf_map_dec (arcs : List Nat) : intsOf (arcs.map dec) = some (arcs.map Int.ofNat) := by
  induction arcs with
  | nil => rfl
  | cons a r ih => simp only [List.map, intsOf, ih, pyInt_dec]

theorem filter_nonempty_map_dec (arcs : List Nat) :
    (arcs.map dec).filter (fun s => !s.isEmpty) = arcs.map dec := by
  apply List.filter_eq_self.mpr
  intro s hs
  rcases List.mem_map.mp hs with ⟨a, _, rfl⟩
  have := dec_ne_nil a
  cases h : dec a with
  | nil => exact absurd h this
  | cons _ _ => rfl

theorem oidText_no_minus (arcs : List Nat) : (oidText arcs).contains '-' = false := by
  have key : ∀ arcs : List Nat, ∀ c ∈ oidText arcs, c ≠ '-' := by
    intro arcs
    induction arcs with
    | nil => intro c h; simp [oidText] at h
    | cons a r ih =>
      intro c h
      cases r with
      | nil =>
        simp only [oidText] at h
        exact dig_ne_minus (allDig_dec a c h)
      | cons b t =>
        rw [oidText] at h
        · rcases List.mem_append.mp h with h | h
          · exact dig_ne_minus (allDig_dec a c h)
          · rcases List.mem_cons.mp h with h | h
            · subst h; decide
            · exact ih c h
        · simp
  cases h : (oidText arcs).contains '-' with
  | false => rfl
  | true =>
    rw [List.contains_iff_mem] at h
    exact absurd rfl (key arcs '-' h)

/-- `ObjectIdentifier.prettyIn(prettyOut(arcs)) = arcs` for every arc list, the empty one included -/
theorem parseOid_oidText (arcs : List Nat) : parseOid (oidText arcs) = .ok arcs := by
  unfold parseOid
  rw [oidText_no_minus]
  cases arcs with
  | nil => simp [oidText, splitDots, intsOf]
  | cons a r =>
    rw [splitDots_oidText, filter_nonempty_map_dec, intsOf_map_dec]
    simp [Function.comp_def]

theorem arcsOfTuple_ofNat (arcs : List Nat) : arcsOfTuple (arcs.map Int.ofNat) = .ok arcs := by
  unfold arcsOfTuple
  have h : (arcs.map Int.ofNat).all (fun z => decide (0 ≤ z)) = true := by
    simp [List.all_eq_true]
  rw [h]
  simp [Function.comp_def]

end Asn1.Native
