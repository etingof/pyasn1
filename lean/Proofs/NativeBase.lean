/-
  Proofs.NativeBase — what the two native-codec proofs share: a typed value is not the
  placeholder, and key lookup in the mappings the encoders build.
-/
import Asn1.Native
import Proofs.Typing

namespace Asn1

theorem isAbsent_of_hasType {t : Ty} {v : Val} (h : HasType t v = true) : v.isAbsent = false := by
  cases v with
  | absent => rw [HasType_ne_absent] at h; cases h
  | _ => rfl

namespace Native

theorem lookupKey_ne {i k : Nat} (p : PyVal) (kvs : List (Nat × PyVal)) (h : k ≠ i) :
    lookupKey i ((k, p) :: kvs) = lookupKey i kvs := by
  simp [lookupKey, h]

theorem lookupKey_self (i : Nat) (p : PyVal) (kvs : List (Nat × PyVal)) :
    lookupKey i ((i, p) :: kvs) = some p := by
  simp [lookupKey]

end Native
end Asn1
