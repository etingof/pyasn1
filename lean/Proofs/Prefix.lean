/-
  Proofs.Prefix — truncation: every proper prefix of a well-formed element parses to `underrun`,
  never to a value and never to `malformed` (the syntactic core of C06).
-/
import Proofs.Parse

namespace Asn1

/-- on success the input is a non-empty part read followed by the rest returned, and the part read
    followed by anything else gives the same answer -/
def ReadsPrefix {α : Type} (D : Bytes → Res (α × Bytes)) : Prop :=
  ∀ bs a r, D bs = .ok (a, r) → ∃ u, u ≠ [] ∧ bs = u ++ r ∧ ∀ s, D (u ++ s) = .ok (a, s)

theorem ReadsPrefix.mono {α : Type} {D : Bytes → Res (α × Bytes)} (hD : ReadsPrefix D)
    {bs : Bytes} {a : α} {r : Bytes} (h : D bs = .ok (a, r)) (s : Bytes) :
    D (bs ++ s) = .ok (a, r ++ s) := by
  obtain ⟨u, _, rfl, hu⟩ := hD bs a r h
  rw [List.append_assoc]; exact hu _

theorem ReadsPrefix.len {α : Type} {D : Bytes → Res (α × Bytes)} (hD : ReadsPrefix D)
    {bs : Bytes} {a : α} {r : Bytes} (h : D bs = .ok (a, r)) : r.length + 1 ≤ bs.length := by
  obtain ⟨u, hne, rfl, _⟩ := hD bs a r h
  rw [List.length_append, Nat.add_comm]
  exact Nat.add_le_add_right (List.length_pos_iff.mpr hne) _

/-- as it is read off a decoder's definition: on every input it reports an underrun, or answers from a
    non-empty part read, whatever follows that part -/
def PrefixDecoder {α : Type} (D : Bytes → Res (α × Bytes)) : Prop :=
  ∀ bs, D bs = .error .underrun ∨
    ∃ a r u, D bs = .ok (a, r) ∧ u ≠ [] ∧ bs = u ++ r ∧ ∀ s, D (u ++ s) = .ok (a, s)

theorem PrefixDecoder.err {α : Type} {D : Bytes → Res (α × Bytes)} (hD : PrefixDecoder D)
    (bs : Bytes) (e : Err) (he : D bs = .error e) : e = .underrun := by
  rcases hD bs with hu | ⟨_, _, _, ho, _⟩
  · rw [hu] at he; exact (Except.error.inj he).symm
  · rw [ho] at he; exact nomatch he

theorem PrefixDecoder.reads {α : Type} {D : Bytes → Res (α × Bytes)} (hD : PrefixDecoder D) :
    ReadsPrefix D := by
  intro bs a r ha
  rcases hD bs with hu | ⟨a', r', u, ho, hne, hbs, hu⟩
  · rw [hu] at ha; exact nomatch ha
  · rw [ho] at ha
    obtain ⟨rfl, rfl⟩ := Prod.mk.inj (Except.ok.inj ha)
    exact ⟨u, hne, hbs, hu⟩

theorem decodeTagNum_prefixDecoder (acc : Nat) : PrefixDecoder (decodeTagNum acc) := by
  intro bs
  induction bs generalizing acc with
  | nil => exact .inl rfl
  | cons b rest ih =>
    rw [decodeTagNum]
    by_cases hb : b.toNat < 128
    · exact .inr ⟨_, rest, [b], if_pos hb, nofun, rfl, fun s => by
        rw [List.singleton_append, decodeTagNum, if_pos hb]⟩
    · rw [if_neg hb]
      refine (ih _).imp_right fun ⟨a, r, u, ho, _, hbs, hu⟩ => ?_
      exact ⟨a, r, b :: u, ho, nofun, by rw [hbs]; rfl, fun s => by
        rw [List.cons_append, decodeTagNum, if_neg hb]; exact hu s⟩

theorem decodeTag_prefixDecoder : PrefixDecoder decodeTag := by
  intro bs
  cases bs with
  | nil => exact .inl rfl
  | cons b rest =>
    rw [decodeTag]
    by_cases h31 : b.toNat % 32 = 31
    · rw [if_pos h31]
      rcases decodeTagNum_prefixDecoder 0 rest with he | ⟨num, r, u, ho, _, hbs, hu⟩
      · rw [he]; exact .inl rfl
      · rw [ho]
        exact .inr ⟨_, r, b :: u, rfl, nofun, by rw [hbs]; rfl, fun s => by
          rw [List.cons_append, decodeTag, if_pos h31, hu s]⟩
    · exact .inr ⟨_, rest, [b], if_neg h31, nofun, rfl, fun s => by
        rw [List.singleton_append, decodeTag, if_neg h31]⟩

theorem decodeLength_prefixDecoder : PrefixDecoder decodeLength := by
  intro bs
  cases bs with
  | nil => exact .inl rfl
  | cons b rest =>
    rw [decodeLength]
    by_cases h1 : b.toNat < 128
    · exact .inr ⟨_, rest, [b], if_pos h1, nofun, rfl, fun s => by
        rw [List.singleton_append, decodeLength, if_pos h1]⟩
    rw [if_neg h1]
    by_cases h2 : b.toNat = 128
    · exact .inr ⟨_, rest, [b], if_pos h2, nofun, rfl, fun s => by
        rw [List.singleton_append, decodeLength, if_neg h1, if_pos h2]⟩
    rw [if_neg h2]
    dsimp only
    by_cases h3 : b.toNat % 128 ≤ rest.length
    · -- long form: the first octet says how many follow
      have hl := List.length_take_of_le h3
      refine .inr ⟨_, _, b :: rest.take (b.toNat % 128), if_pos h3, nofun,
        by rw [List.cons_append, List.take_append_drop], fun s => ?_⟩
      rw [List.cons_append, decodeLength, if_neg h1, if_neg h2]
      dsimp only
      rw [if_pos (by rw [List.length_append, hl]; exact Nat.le_add_right ..), List.take_left' hl,
        List.drop_left' hl]
    · exact .inl (if_neg h3)

theorem decodeTag_reads : ReadsPrefix decodeTag := decodeTag_prefixDecoder.reads
theorem decodeLength_reads : ReadsPrefix decodeLength := decodeLength_prefixDecoder.reads

/-- such a decoder does not decode a proper prefix of the octets it reads (used for the identifier
    and for the length) -/
theorem cut_underrun {α : Type} {D : Bytes → Res (α × Bytes)} (hD : PrefixDecoder D)
    {tb : Bytes} {a : α} (ht : ∀ r, D (tb ++ r) = .ok (a, r)) {j : Nat} (hj : j < tb.length) :
    D (tb.take j) = .error .underrun := by
  cases hd : D (tb.take j) with
  | error e => rw [hD.err _ e hd]
  | ok p =>
    -- extended by the octets cut off it would leave them over, but it leaves nothing
    have h1 := hD.reads.mono hd (tb.drop j)
    have h2 := ht []
    rw [List.take_append_drop] at h1
    rw [List.append_nil, h1] at h2
    have := congrArg List.length (Prod.mk.inj (Except.ok.inj h2)).2
    rw [List.length_append, List.length_drop, List.length_nil] at this
    omega

theorem take_append_of_length_le {a : Bytes} (b : Bytes) {k : Nat} (h : a.length ≤ k) :
    (a ++ b).take k = a ++ b.take (k - a.length) := by
  rw [List.take_append, List.take_of_length_le h]

theorem parse_cut_hdr (cfg : ParseCfg) (f : Nat) {h : Bytes} {tag : Tag} {len : Len}
    (hk : HdrOk h tag len) (body : Bytes) {k : Nat} (hlt : k < h.length) :
    parse cfg (f + 1) ((h ++ body).take k) = .error .underrun := by
  obtain ⟨tb, lb, rfl, ht, hl⟩ := hk
  rw [List.length_append] at hlt
  rw [List.append_assoc]
  by_cases hk1 : k < tb.length
  · rw [List.take_append_of_le_length (Nat.le_of_lt hk1)]
    exact parse_tag_err cfg f _ _ (cut_underrun decodeTag_prefixDecoder ht hk1)
  · have hle := Nat.le_of_not_lt hk1
    have hk2 : k - tb.length < lb.length := Nat.sub_lt_left_of_lt_add hle hlt
    rw [take_append_of_length_le _ hle, List.take_append_of_le_length (Nat.le_of_lt hk2)]
    exact parse_len_err cfg f _ tag _ _ (ht _) (cut_underrun decodeLength_prefixDecoder hl hk2)

/-- an element cut at `k`: inside the header the header decoders underrun; behind it the value part,
    on what is left of the contents, decides -/
theorem parse_cut (cfg : ParseCfg) (f : Nat) {h : Bytes} {tag : Tag} {len : Len} (hh : HdrOk h tag len)
    (body : Bytes) {k : Nat}
    (hb : h.length ≤ k → parseBody cfg f h tag len (body.take (k - h.length)) = .error .underrun) :
    parse cfg (f + 1) ((h ++ body).take k) = .error .underrun := by
  by_cases hlt : k < h.length
  · exact parse_cut_hdr cfg f hh body hlt
  · rw [take_append_of_length_le _ (Nat.le_of_not_lt hlt), parse_hdr cfg f hh]
    exact hb (Nat.le_of_not_lt hlt)

/-- a definite-length element: the length announced is more than what is left of the contents -/
theorem parse_cut_def (cfg : ParseCfg) (f : Nat) {h body : Bytes} {tag : Tag}
    (hh : HdrOk h tag (.definite body.length)) {k : Nat} (hk : k < (h ++ body).length) :
    parse cfg (f + 1) ((h ++ body).take k) = .error .underrun :=
  parse_cut cfg f hh body fun hle => by
    rw [List.length_append] at hk
    exact if_neg (Nat.not_le.mpr (Nat.lt_of_le_of_lt (List.length_take_le ..) (Nat.sub_lt_left_of_lt_add hle hk)))

mutual
/-- **truncation**: every proper prefix of a well-formed element is an underrun -/
theorem parse_take (cfg : ParseCfg) : ∀ (t : TLV) (f k : Nat),
    t.WF → t.okFor cfg → t.ser.length ≤ f → k < t.ser.length →
    parse cfg f (t.ser.take k) = .error .underrun
  | t, 0 => fun _ hw _ hf _ => by have := t.ser_length_ge hw; omega
  | .prim h tag c, f + 1 => fun k hw _ _ hk => parse_cut_def cfg f hw.1 hk
  | .cons h tag false cs, f + 1 => fun k hw _ _ hk => by
      rw [TLV.ser, if_neg (by decide), List.append_nil] at hk ⊢
      exact parse_cut_def cfg f hw.1 hk
  | .cons h tag true cs, f + 1 => fun k hw ho hf hk => by
      obtain ⟨hh, hc, hws, hne⟩ := hw
      rw [TLV.ser, if_pos rfl] at hk hf ⊢
      simp only [List.length_append, eooBytes, List.length_cons, List.length_nil] at hk hf
      refine parse_cut cfg f hh _ fun _ => ?_
      rw [parseBody_indef (okFor_indef ho) hc,
        parseUntil_take cfg cs f (k - h.length) hws hne (.inl (okFor_indef ho)) (by omega) (by omega)]
      rfl
theorem parseUntil_take (cfg : ParseCfg) : ∀ (cs : List TLV) (f m : Nat),
    WFs cs → NoEooL cs → okForL cfg cs → (serList cs).length + 1 ≤ f →
    m < (serList cs).length + 2 →
    parseUntilEoo cfg f ((serList cs ++ eooBytes).take m) = .error .underrun
  | _, 0 => fun _ _ _ _ hf _ => nomatch hf
  | [], f + 1 => fun m _ _ _ _ hm => by
      rw [parseUntil_step, if_pos (by rw [List.length_take]; exact Nat.lt_of_le_of_lt (Nat.min_le_left ..) hm)]
  | c :: cs, f + 1 => fun m hw hne ho hf hm => by
      obtain ⟨hwc, hwcs⟩ := hw
      obtain ⟨hnc, hncs⟩ := hne
      have h2 := c.ser_length_ge hwc
      simp only [serList, List.append_assoc, List.length_append] at hf hm ⊢
      have hcf : c.ser.length ≤ f := by omega
      by_cases hmc : m < c.ser.length
      · -- cut inside `c`: too short for the probe, or `c` itself is cut
        rw [List.take_append_of_le_length (Nat.le_of_lt hmc), parseUntil_step]
        split
        · rfl
        next hm2 =>
          rw [List.length_take] at hm2
          rw [if_neg (by rw [List.take_take, Nat.min_eq_left (by omega)]; exact notEoo_iff_take.mp hnc),
            parse_take cfg c f m hwc (okForL_cons ho).1 hcf hmc]
          rfl
      · -- `c` is read whole, and the cut is behind it
        rw [take_append_of_length_le _ (Nat.le_of_not_lt hmc),
          parseUntil_cons hwc hnc (parse_ser cfg c f _ hwc (okForL_cons ho).1 hcf),
          parseUntil_take cfg cs f (m - c.ser.length) hwcs hncs (okForL_cons ho).2 (by omega) (by omega)]
        rfl
end

end Asn1
