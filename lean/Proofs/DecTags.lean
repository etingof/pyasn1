/-
  Proofs.DecTags — the guided decoder in "tag list" normal form: decoding against a type is
  peeling the type's tags from the outside in (explicit wrappers hold exactly one element), then
  decoding the body of the base type.  This is the bridge between `decTy` (recursion on the type)
  and the encoder's header loop (recursion on `tagSet.superTags`).
-/
import Asn1.Decoder
import Asn1.Typing
import Proofs.DecInduct

namespace Asn1

def sameTag (a b : Tag) : Bool := a.cls = b.cls ∧ a.num = b.num

/-- decode by tag list; `os` = the type's tags, outermost first; `chk` = whether the outermost tag
    is compared (it is not when an IMPLICIT tag has replaced it) -/
def decG (cfg : DecCfg) (base : Ty) : Bool → List Tag → TLV → Res Val
  | chk, [], x => if chk then decTy cfg base x else decBody cfg base x
  | chk, [b], x => if chk && !sameTag x.tag b then .error .malformed else decBody cfg base x
  | chk, o :: o' :: rest, x =>
    match x with
    | .cons _ tg _ [child] =>
      if chk && !sameTag tg o then .error .malformed else decG cfg base true (o' :: rest) child
    | _ => .error .malformed

theorem decG_wrapper (cfg : DecCfg) (base : Ty) (o o' : Tag) (rest : List Tag) (x : TLV) :
    decG cfg base false (o :: o' :: rest) x = onlyChild (decG cfg base true (o' :: rest)) x := by
  match x with
  | .prim .. | .cons _ _ _ [] | .cons _ _ _ [_] | .cons _ _ _ (_ :: _ :: _) => rfl

/-- the head of the tag list only matters through the comparison -/
theorem decG_head (cfg : DecCfg) (base : Ty) (a a' : Tag) (rest : List Tag) (x : TLV) :
    decG cfg base true (a :: rest) x
      = if sameTag x.tag a then decG cfg base false (a' :: rest) x else .error .malformed := by
  cases rest with
  | nil => rw [decG, decG]; cases sameTag x.tag a <;> rfl
  | cons o' rest' =>
    rw [decG_wrapper]
    match x with
    | .cons _ tg _ [child] => rw [decG, TLV.tag]; cases sameTag tg a <;> rfl
    | .prim .. | .cons _ _ _ [] | .cons _ _ _ (_ :: _ :: _) => exact (ite_self _).symm

theorem tagImplicitly_reverse_nil (cls : TagClass) (fmt : Bool) (num : Nat) :
    (TagSet.tagImplicitly [] cls fmt num).reverse = [⟨cls, fmt, num⟩] := by
  simp [TagSet.tagImplicitly]

theorem tagImplicitly_reverse_cons (ts : TagSet) (o : Tag) (rest : List Tag) (cls : TagClass)
    (fmt : Bool) (num : Nat) (h : ts.reverse = o :: rest) :
    (TagSet.tagImplicitly ts cls fmt num).reverse = ⟨cls, o.constructed, num⟩ :: rest := by
  have hts : ts = rest.reverse ++ [o] := by
    have := congrArg List.reverse h
    simpa using this
  subst hts
  simp [TagSet.tagImplicitly]

/-- `ANY` under any number of taggings -/
def isAnyBase : Ty → Bool
  | .any => true
  | .tagged _ _ _ t => isAnyBase t
  | _ => false

theorem tags_eq_nil : ∀ {t : Ty}, t.tags = [] → (∃ fs, t = .choice fs) ∨ t = .any
  | .choice fs, _ => .inl ⟨fs, rfl⟩
  | .any, _ => .inr rfl
  | .prim _, h | .seq _, h | .seqOf _, h | .set _, h | .setOf _, h => by cases h
  | .tagged true _ _ t, h => by simp [Ty.tags] at h
  | .tagged false _ _ t, h => by
      rw [Ty.tags, TagSet.tagImplicitly] at h
      split at h <;> simp at h

theorem tags_reverse_of_outer {t : Ty} {o : TagClass × Nat} (ho : t.outer = some o) :
    ∃ c rest, t.tags.reverse = ⟨o.1, c, o.2⟩ :: rest := by
  cases t with
  | choice | any => cases ho
  | tagged e cls num t =>
    cases ho
    cases e with
    | true => exact ⟨true, t.tags.reverse, by simp [Ty.tags]⟩
    | false =>
      rw [Ty.tags]
      cases hr : t.tags.reverse with
      | nil =>
        rw [List.reverse_eq_nil_iff.mp hr]
        exact ⟨false, [], tagImplicitly_reverse_nil cls false num⟩
      | cons a rest => exact ⟨a.constructed, rest, tagImplicitly_reverse_cons _ a rest cls false num hr⟩
  | _ => cases ho; exact ⟨_, [], rfl⟩

/-- the guided decoder peels the type's tags from the outside in and then decodes the body of
    the base type; `decTy` compares the outermost tag, `decBody` does not -/
theorem dec_decG (cfg : DecCfg) : ∀ t : Ty, isAnyBase t = false →
    (∀ x, decBody cfg t x = decG cfg t.base false t.tags.reverse x) ∧
    (∀ x, decTy cfg t x = decG cfg t.base true t.tags.reverse x)
  | .any, h => by cases h
  | .choice fs, _ => ⟨fun _ => rfl, fun _ => rfl⟩
  | .prim _, _ | .seq _, _ | .seqOf _, _ | .set _, _ | .setOf _, _ =>
    of_body rfl fun x => rfl
  | .tagged true cls num t, ha => of_body rfl fun x => by
      have ih := (dec_decG cfg t ha).2
      rw [Ty.tags, Ty.base, List.reverse_append, List.reverse_singleton, List.singleton_append]
      cases hr : t.tags.reverse with
      | nil =>
        -- `t` is an untagged CHOICE: the wrapper holds the alternative
        rcases tags_eq_nil (List.reverse_eq_nil_iff.mp hr) with ⟨fs, rfl⟩ | rfl
        · simp only [Ty.base, decG, Bool.false_and, Bool.false_eq_true, if_false]
          rw [decBody_explicit, decBody_choice]
          exact onlyChild_congr (fun c => by rw [decTy]) x
        · cases ha
      | cons o' rest =>
        rw [decG_wrapper, decBody_explicit, ← hr]
        exact onlyChild_congr ih x
  | .tagged false cls num t, ha => of_body rfl fun x => by
      rw [decBody, (dec_decG cfg t ha).1, Ty.tags, Ty.base]
      cases hr : t.tags.reverse with
      | nil => rw [List.reverse_eq_nil_iff.mp hr, tagImplicitly_reverse_nil]; simp [decG]
      | cons o rest =>
        rw [tagImplicitly_reverse_cons _ o rest cls false num hr]
        cases rest with
        | nil => simp [decG]
        | cons o' rest' => rw [decG_wrapper, decG_wrapper]
where
  /-- `decTy` adds the comparison of the outermost tag on both sides -/
  of_body {t : Ty} {o : TagClass × Nat} (ho : t.outer = some o)
      (hB : ∀ x, decBody cfg t x = decG cfg t.base false t.tags.reverse x) :
      (∀ x, decBody cfg t x = decG cfg t.base false t.tags.reverse x) ∧
      (∀ x, decTy cfg t x = decG cfg t.base true t.tags.reverse x) := by
    refine ⟨hB, fun x => ?_⟩
    obtain ⟨c, rest, hr⟩ := tags_reverse_of_outer ho
    rw [decTy_eq_decBody cfg ho, hB, hr, decG_head cfg t.base _ ⟨o.1, c, o.2⟩ rest x]
    simp only [sameTag, decide_eq_true_eq]

theorem decTy_decG (cfg : DecCfg) (t : Ty) (x : TLV) (ha : isAnyBase t = false) :
    decTy cfg t x = decG cfg t.base true t.tags.reverse x := (dec_decG cfg t ha).2 x

theorem decBody_decG (cfg : DecCfg) : ∀ (t : Ty) (x : TLV), isAnyBase t = false →
    decBody cfg t x = decG cfg t.base false t.tags.reverse x :=
  fun t x ha => (dec_decG cfg t ha).1 x

end Asn1
