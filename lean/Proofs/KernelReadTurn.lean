/-
  Proofs.KernelReadTurn — one turn of the `while True:` loop of `readFromStream` (pyasn1/codec/streaming.py; translated
  from the source into `GenK.readTurn`: the stream's position threaded through, what `substrate.read(n)` answers at a
  position a function parameter; `yield <underrun>` = the turn answers None, `break` = the turn answers the octets) is the
  model's `readFromStreamRaw`: all `size` octets, or an underrun with the position restored, or EndOfStreamError.
  Likewise one turn of `isEndOfStream`'s retry loop (`GenK.eosTurn`) is the model's `eosAns`.
-/
import Proofs.KernelBase
import Proofs.StreamRaw

namespace Asn1.Kernels
open Asn1.Stream

/-- what `substrate.read(n)` answers at `pos` on the model's raw stream (octets `d` so far, `closed`, at most `cap + 1`
    octets per call) -/
def rdOf (d : Bytes) (closed : Bool) (cap : Nat) (pos n : Int) : Option Py.Tup :=
  (rawRead d closed cap pos.toNat n.toNat).map bytesInts

/-- the octets and the position after them; None and the
    position where the turn started; EndOfStreamError -/
def liftAns (pos0 : Nat) : Ans Bytes → Py.M (Option Py.Tup × Int)
  | .ok b => .ok (some (bytesInts b), ((pos0 + b.length : Nat) : Int))
  | .wait => .ok (none, (pos0 : Int))
  | .eos => .error (.lib "EndOfStreamError")

/-- what the turn does with the outcome of its collecting loop -/
def afterLoop (s : Int) (more : Option Py.Tup) (parts : List Py.Tup) (missing : Int) : Py.M (Option Py.Tup × Int) := do
  let received : Py.Tup := parts.flatten
  if (!(Py.truthy missing)) then
    pure (some received, s)
  else do
    let (_, s) ← Py.rsSeek s (-(Py.len received)) 1
    if more.isSome then throw (Py.PyErr.lib "EndOfStreamError") else pure (none, s)

theorem rdOf_nat (d : Bytes) (closed : Bool) (cap pos n : Nat) :
    rdOf d closed cap (pos : Int) (n : Int) = (rawRead d closed cap pos n).map bytesInts := rfl

/-- a request within `MAX_READ_SIZE` is passed on whole -/
theorem imin_maxRead (n : Nat) (h : n ≤ 1048576) : Py.imin (n : Int) 1048576 = (n : Int) :=
  if_neg (by omega)

theorem rawRead_bounds {d : Bytes} {closed : Bool} {cap pos n : Nat} {r : Bytes}
    (h : rawRead d closed cap pos n = some r) : r.length ≤ n ∧ (pos ≤ d.length → pos + r.length ≤ d.length) := by
  rw [rawRead] at h
  by_cases hn : n = 0
  · rw [if_pos hn] at h; cases h; exact ⟨Nat.zero_le _, id⟩
  · rw [if_neg hn] at h
    by_cases hd : d.length ≤ pos
    · rw [if_pos hd] at h
      cases closed <;> cases h
      exact ⟨Nat.zero_le _, id⟩
    · rw [if_neg hd] at h; cases h
      rw [List.length_take, List.length_drop]
      exact ⟨Nat.le_trans (Nat.min_le_left _ _) (Nat.min_le_left _ _), fun h =>
        Nat.le_trans (Nat.add_le_add_left (Nat.min_le_right _ _) _) (Nat.le_of_eq (Nat.add_sub_cancel' h))⟩

/-- `while more and missing:` - with nothing in hand (`None`, or no octets) or nothing missing the collecting loop stops -/
theorem readTurn_loop1_stop {rd : Int → Int → Option Py.Tup} {f : Nat} {s : Int} {more : Option Py.Tup}
    {parts : List Py.Tup} {missing : Int} (h : (Py.otruthy more && Py.truthy missing) = false) :
    GenK.readTurn_loop1 rd (f + 1) s more parts missing = .ok (s, more, parts, missing) := by
  simp only [GenK.readTurn_loop1, h, Bool.false_eq_true, if_false]; rfl

/-- one turn of the collecting loop in the shape of `gatherLoop`'s equation: after `None` or `b''` the next test of `more`
    fails, so the loop is over -/
theorem readTurn_loop1_turn {rd : Int → Int → Option Py.Tup} {f : Nat} {s : Int} {m : Py.Tup} {parts : List Py.Tup}
    {missing : Nat} (hf : 0 < f) (hm : m ≠ []) (h0 : missing ≠ 0) (hM : missing ≤ 1048576) :
    GenK.readTurn_loop1 rd (f + 1) s (some m) parts (missing : Int) =
      match rd s missing with
      | none => .ok (s, none, parts, (missing : Int))
      | some t =>
        if t = [] then .ok (s, some [], parts, (missing : Int))
        else
          GenK.readTurn_loop1 rd f (s + (t.length : Nat)) (some t) (parts ++ [t]) ((missing : Int) - (t.length : Nat)) := by
  obtain ⟨f, rfl⟩ := Nat.exists_eq_add_one_of_ne_zero (Nat.ne_of_gt hf)
  have hmt : Py.otruthy (some m) = true := by simpa [Py.otruthy] using hm
  have ht : Py.truthy (missing : Int) = true := (truthy_nat missing).trans (decide_eq_true h0)
  rw [GenK.readTurn_loop1]
  simp only [hmt, ht, Bool.and_self, if_true, imin_maxRead missing hM, Py.rsRead]
  cases rd s missing with
  | none => rfl
  | some t =>
    cases t with
    | nil => exact congrArg (fun z => Except.ok (z, some [], parts, (missing : Int))) (Int.add_zero s)
    | cons x xs => rfl

theorem rsSeek_back (pos k : Nat) : Py.rsSeek ((pos + k : Nat) : Int) (-(k : Int)) 1 = .ok ((pos : Int), (pos : Int)) :=
  (congrArg (fun p => Except.ok (p, p)) (seek_back_pos (pos + k) k)).trans (by rw [Nat.add_sub_cancel])

/-- short of octets, the turn steps back over what it has received: EndOfStreamError after `b''`, None after `None` -/
theorem afterLoop_short (pos0 : Nat) (acc : Bytes) (more : Option Py.Tup) (parts : List Py.Tup) (missing : Nat)
    (h0 : missing ≠ 0) (hp : parts.flatten = bytesInts acc) :
    afterLoop ((pos0 + acc.length : Nat) : Int) more parts (missing : Int) =
      if more.isSome then .error (.lib "EndOfStreamError") else .ok (none, (pos0 : Int)) := by
  have ht : Py.truthy (missing : Int) = true := (truthy_nat missing).trans (decide_eq_true h0)
  rw [afterLoop, ht]
  show (Py.rsSeek _ (-(Py.len parts.flatten)) 1 >>= fun x =>
    if more.isSome then throw (Py.PyErr.lib "EndOfStreamError") else pure (none, x.2)) = _
  rw [hp, len_bytes, rsSeek_back]
  rfl

theorem loop_after (d : Bytes) (closed : Bool) (cap : Nat) (pos0 : Nat) :
    ∀ (f : Nat) (acc : Bytes) (m : Bytes) (parts : List Py.Tup) (missing : Nat),
      m ≠ [] → parts.flatten = bytesInts acc → missing < f → missing ≤ 1048576 →
      (GenK.readTurn_loop1 (rdOf d closed cap) f ((pos0 + acc.length : Nat) : Int) (some (bytesInts m)) parts (missing : Int)
          >>= fun r => afterLoop r.1 r.2.1 r.2.2.1 r.2.2.2) =
        liftAns pos0 (gatherLoop d closed (fun _ => cap) f (pos0 + acc.length) missing acc)
  | 0, _, _, _, _, _, _, hf, _ => by omega
  | f + 1, acc, m, parts, missing, hm, hp, hf, hM => by
    by_cases h0 : missing = 0
    · subst h0
      rw [readTurn_loop1_stop (Bool.and_false _), gatherLoop, if_pos rfl]
      exact congrArg (fun r => Except.ok (some r, ((pos0 + acc.length : Nat) : Int))) hp
    · have hmi : bytesInts m ≠ [] := fun h => hm (List.map_eq_nil_iff.mp h)
      have hf0 : 0 < f := Nat.lt_of_lt_of_le (Nat.pos_of_ne_zero h0) (Nat.le_of_lt_succ hf)
      rw [readTurn_loop1_turn hf0 hmi h0 hM, gatherLoop, if_neg h0, rdOf_nat]
      cases hr : rawRead d closed cap (pos0 + acc.length) missing with
      | none => exact afterLoop_short pos0 acc none parts missing h0 hp
      | some r =>
        cases r with
        | nil => exact afterLoop_short pos0 acc (some []) parts missing h0 hp
        | cons x xs =>
          -- octets: position, `parts` and `missing` move as `pos`, `acc` and `missing` of `gatherLoop` do
          have hle := (rawRead_bounds hr).1
          show (GenK.readTurn_loop1 _ f (_ + ((bytesInts (x :: xs)).length : Nat)) _ _
            (_ - ((bytesInts (x :: xs)).length : Nat)) >>= _) = liftAns pos0 (gatherLoop _ _ _ f _ _ _)
          rw [bytesInts_length, ← Int.natCast_add, ← Int.ofNat_sub hle, Nat.add_assoc, ← List.length_append]
          exact loop_after d closed cap pos0 f (acc ++ x :: xs) (x :: xs) (parts ++ [bytesInts (x :: xs)])
            (missing - (x :: xs).length) (List.cons_ne_nil x xs)
            (by rw [List.flatten_append, hp, bytesInts_append, List.flatten_singleton])
            (Nat.lt_of_lt_of_le (Nat.sub_lt (Nat.pos_of_ne_zero h0) (Nat.succ_pos _)) (Nat.le_of_lt_succ hf))
            (Nat.le_trans (Nat.sub_le _ _) hM)

theorem gatherLoop_fuel (d : Bytes) (closed : Bool) (capOf : Nat → Nat) (f1 f2 pos missing : Nat) (acc : Bytes)
    (h1 : missing ≤ f1) (h2 : missing ≤ f2) (hp : pos ≤ d.length) :
    gatherLoop d closed capOf f1 pos missing acc = gatherLoop d closed capOf f2 pos missing acc := by
  rw [gatherLoop_spec d closed capOf f1 pos missing acc h1 hp, gatherLoop_spec d closed capOf f2 pos missing acc h2 hp]

theorem gatherLoop_done (d : Bytes) (closed : Bool) (capOf : Nat → Nat) (f pos : Nat) (acc : Bytes) :
    gatherLoop d closed capOf f pos 0 acc = .ok acc := by
  cases f <;> rfl

/-- the turn up to its collecting loop, in the shape of `gatherLoop`'s equation -/
theorem readTurn_first {rd : Int → Int → Option Py.Tup} {s : Int} {n : Nat} (h0 : n ≠ 0) (hn : n ≤ 1048576) :
    GenK.readTurn rd s n =
      match rd s n with
      | none => .ok (none, s)
      | some t =>
        if t = [] then .error (.lib "EndOfStreamError")
        else if t.length < n then
          GenK.readTurn_loop1 rd (((n : Int) - (t.length : Nat)).toNat + 1) (s + (t.length : Nat)) (some t) [t]
              ((n : Int) - (t.length : Nat))
            >>= fun r => afterLoop r.1 r.2.1 r.2.2.1 r.2.2.2
        else .ok (some t, s + (t.length : Nat)) := by
  rw [GenK.readTurn]
  simp only [imin_maxRead n hn, Py.rsRead]
  cases rd s n with
  | none => rfl
  | some t =>
    cases t with
    | nil =>
      have hd : decide ((n : Int) ≠ 0) = true := decide_eq_true fun h => h0 (Int.ofNat_eq_zero.mp h)
      simp only [hd]; rfl
    | cons x xs =>
      have hd : decide (Py.len (x :: xs) < (n : Int)) = decide ((x :: xs).length < n) :=
        decide_eq_decide.mpr Int.ofNat_lt
      simp only [Option.isNone_some, Py.otruthy, List.isEmpty_cons, Bool.not_false, Bool.not_true, Bool.false_and,
        Bool.false_eq_true, if_false, Py.unwrap, bind, Except.bind, pure, Except.pure, hd, decide_eq_true_eq]
      rfl

/-- **one turn of `readFromStream` as it is in the source is the model's `readFromStreamRaw`** (requests up to
    `MAX_READ_SIZE`, a stream position inside the octets received so far): all `size` octets gathered over as many short
    reads as it takes, the position after them; or None with the position back where the turn began, while the stream
    may still deliver; or EndOfStreamError once it is closed -/
theorem readTurn_kernel (d : Bytes) (closed : Bool) (cap pos n : Nat) (hn : n ≤ 1048576) (hp : pos ≤ d.length) :
    GenK.readTurn (rdOf d closed cap) (pos : Int) (n : Int) =
      liftAns pos (readFromStreamRaw d closed (fun _ => cap) pos n) := by
  by_cases h0 : n = 0
  · subst h0; rfl
  · rw [readFromStreamRaw, gatherLoop, if_neg h0, readTurn_first h0 hn, rdOf_nat]
    cases hr : rawRead d closed cap pos n with
    | none => rfl
    | some r =>
      cases r with
      | nil => rfl
      | cons x xs =>
        obtain ⟨hle, hin⟩ := rawRead_bounds hr
        show (if (bytesInts (x :: xs)).length < n then _ else _) = liftAns pos (gatherLoop _ _ _ n _ _ (x :: xs))
        rw [bytesInts_length]
        by_cases hfull : (x :: xs).length = n
        · have hge : n ≤ (x :: xs).length := Nat.le_of_eq hfull.symm
          rw [if_neg (Nat.not_lt.mpr hge), Nat.sub_eq_zero_of_le hge, gatherLoop_done]
          exact congrArg (fun z => Except.ok (some (bytesInts (x :: xs)), z)) (Int.natCast_add _ _).symm
        · rw [if_pos (Nat.lt_of_le_of_ne hle hfull), ← Int.ofNat_sub hle, Int.toNat_natCast, ← Int.natCast_add,
            gatherLoop_fuel d closed _ n (n - (x :: xs).length + 1) _ _ _ (Nat.sub_le _ _) (Nat.le_succ _) (hin hp)]
          exact loop_after d closed cap pos (n - (x :: xs).length + 1) (x :: xs) (x :: xs) [bytesInts (x :: xs)]
            (n - (x :: xs).length) (List.cons_ne_nil x xs) List.flatten_singleton (Nat.lt_succ_self _)
            (Nat.le_trans (Nat.sub_le _ _) hn)

def liftEos (pos0 : Nat) : Ans Bool → Py.M (Option Bool × Int)
  | .ok b => .ok (some b, (pos0 : Int))
  | .wait => .ok (none, (pos0 : Int))
  | .eos => .error (.lib "EndOfStreamError")

theorem eosTurn_eq (rd : Int → Int → Option Py.Tup) (s : Int) :
    GenK.eosTurn rd s =
      match rd s 1 with
      | none => .ok (none, s)
      | some t =>
        if t = [] then .ok (some true, s)
        else Py.rsSeek (s + (t.length : Nat)) (-1) 1 >>= fun x => pure (some false, x.2) := by
  rw [GenK.eosTurn, Py.rsRead]
  cases h : rd s 1 with
  | none => rfl
  | some t =>
    cases t with
    | nil => exact congrArg (fun z => Except.ok (some true, z)) (Int.add_zero s)
    | cons x xs => rfl

/-- **`isEndOfStream` as it is in the source** (the branch for streams other than `io.BytesIO`; one turn of its retry loop):
    one octet is asked for - None: an underrun, ask again; an octet: stepped back over, "not at the end"; nothing although
    the stream is closed: "at the end" - the model's `eosAns`, the position unchanged in every case -/
theorem eosTurn_kernel (k : Kind) (hk : k ≠ .bytesIO) (d : Bytes) (closed : Bool) (cap pos : Nat) :
    GenK.eosTurn (rdOf d closed cap) (pos : Int) = liftEos pos (eosAns k d closed pos) := by
  have hke : eosAns k d closed pos = if pos < d.length then .ok false else if closed then .ok true else .wait := by
    cases k with
    | bytesIO => exact absurd rfl hk
    | _ => rfl
  rw [hke, eosTurn_eq, show rdOf d closed cap (pos : Int) 1 = _ from rdOf_nat d closed cap pos 1, rawRead,
    if_neg Nat.one_ne_zero]
  by_cases h : pos < d.length
  · rw [if_neg (Nat.not_le.mpr h), if_pos h, List.drop_eq_getElem_cons h,
      show min 1 (cap + 1) = 1 from Nat.min_eq_left (Nat.succ_le_succ (Nat.zero_le cap))]
    show (Py.rsSeek ((pos + 1 : Nat) : Int) (-((1 : Nat) : Int)) 1 >>= fun x => pure (some false, x.2)) = _
    rw [rsSeek_back]
    rfl
  · rw [if_pos (Nat.le_of_not_lt h), if_neg h]
    cases closed <;> rfl

end Asn1.Kernels
