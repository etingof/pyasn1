/-
  Proofs.Parse — the syntactic layer.  Well-formed TLV trees (`TLV.WF`: any tag, any legal length
  form, definite or indefinite at every constructed level, no bound on size or depth); one step of
  each of the three mutually recursive parsers as an equation (`parse_succ`, `parseAll_step`,
  `parseUntil_step`) and, for what holds of every successful call, the induction over the ways a
  call can succeed (`parsers_ok_induct`), on which the framing proofs rest; and exact
  consumption: `parse (t.ser ++ tail) = (t, tail)` for every well-formed `t`, whatever `tail` is.
-/
import Asn1.TLV
import Proofs.TagLen
import Proofs.Res

namespace Asn1

/-- `hdr` is an identifier followed by length octets that decode to `(tag, len)` before any tail -/
def HdrOk (hdr : Bytes) (tag : Tag) (len : Len) : Prop :=
  ∃ tb lb, hdr = tb ++ lb ∧
    (∀ r, decodeTag (tb ++ r) = .ok (tag, r)) ∧ (∀ r, decodeLength (lb ++ r) = .ok (len, r))

def NotEoo (b : Bytes) : Prop := ∀ rest, b ≠ 0 :: 0 :: rest

mutual
/-- well-formed trees: headers describe their contents; indefinite only on constructed elements,
    whose children never start with `00 00` -/
def TLV.WF : TLV → Prop
  | .prim h tag c => HdrOk h tag (.definite c.length) ∧ tag.constructed = false
  | .cons h tag false cs =>
      HdrOk h tag (.definite (serList cs).length) ∧ tag.constructed = true ∧ WFs cs
  | .cons h tag true cs =>
      HdrOk h tag .indefinite ∧ tag.constructed = true ∧ WFs cs ∧ NoEooL cs
def WFs : List TLV → Prop
  | [] => True
  | c :: cs => c.WF ∧ WFs cs
def NoEooL : List TLV → Prop
  | [] => True
  | c :: cs => NotEoo c.ser ∧ NoEooL cs
end

mutual
/-- no indefinite length anywhere (what a decoder with `supportIndefLength = False` can read) -/
def TLV.allDef : TLV → Bool
  | .prim .. => true
  | .cons _ _ indef cs => !indef && allDefL cs
def allDefL : List TLV → Bool
  | [] => true
  | c :: cs => c.allDef && allDefL cs
end

mutual
/-- the length form of one mode at every constructed level: definite everywhere under `dm = true` (= `allDef`),
    indefinite at every constructed node under `dm = false` (primitive nodes are always definite) - X.690 9.1 / 10.1 -/
def TLV.lenForm (dm : Bool) : TLV → Bool
  | .prim .. => true
  | .cons _ _ indef cs => (indef == !dm) && lenFormL dm cs
def lenFormL (dm : Bool) : List TLV → Bool
  | [] => true
  | c :: cs => c.lenForm dm && lenFormL dm cs
end

mutual
theorem TLV.lenForm_true : ∀ (x : TLV), x.lenForm true = x.allDef
  | .prim .. => rfl
  | .cons _ _ indef cs => by
    simp only [TLV.lenForm, TLV.allDef, lenFormL_true cs]
    cases indef <;> rfl
theorem lenFormL_true : ∀ (cs : List TLV), lenFormL true cs = allDefL cs
  | [] => rfl
  | c :: cs => by simp only [lenFormL, allDefL, TLV.lenForm_true c, lenFormL_true cs]
end

theorem lenForm_allDef {dm : Bool} {x : TLV} (h : x.lenForm dm = true) (hd : dm = true) : x.allDef = true := by
  subst hd; rw [← TLV.lenForm_true]; exact h

/-- the tree is readable under `cfg` -/
def TLV.okFor (cfg : ParseCfg) (t : TLV) : Prop := cfg.allowIndef = true ∨ t.allDef = true
def okForL (cfg : ParseCfg) (ts : List TLV) : Prop := cfg.allowIndef = true ∨ allDefL ts = true

theorem serList_append (a b : List TLV) : serList (a ++ b) = serList a ++ serList b := by
  induction a with
  | nil => simp [serList]
  | cons x xs ih => simp [serList, ih]

theorem HdrOk.length_ge {h tag len} (hk : HdrOk h tag len) : 2 ≤ h.length := by
  obtain ⟨tb, lb, rfl, ht, hl⟩ := hk
  have h1 : tb ≠ [] := by
    intro e; subst e
    have := ht []
    simp [decodeTag] at this
  have h2 : lb ≠ [] := by
    intro e; subst e
    have := hl []
    simp [decodeLength] at this
  rw [List.length_append]
  exact Nat.add_le_add (List.length_pos_iff.mpr h1) (List.length_pos_iff.mpr h2)

theorem TLV.ser_length_ge : ∀ (t : TLV), t.WF → 2 ≤ t.ser.length
  | .prim .., hw | .cons _ _ false _, hw | .cons _ _ true _, hw => by
      exact Nat.le_trans hw.1.length_ge (by simp [TLV.ser])

theorem underrunToMalformed_ok {α : Type} (x : Res α) (a : α) (h : underrunToMalformed x = .ok a) :
    x = .ok a := by
  cases x with
  | ok b => exact h
  | error e => cases e <;> exact nomatch h

theorem FuelExt.underrunToMalformed {α : Type} {x x' : Res α} (hx : FuelExt x x') :
    FuelExt (underrunToMalformed x) (underrunToMalformed x') := by
  intro h
  rw [hx fun he => h (by rw [he]; rfl)]

theorem underrunToMalformed_ne_fuel {α : Type} (r : Res α) (h : r ≠ .error .fuel) :
    underrunToMalformed r ≠ .error .fuel := by
  unfold underrunToMalformed
  split
  · simp
  · exact h

/-- what `parse` does once the header octets `hdr` have been read and `r2` follows them -/
def parseBody (cfg : ParseCfg) (f : Nat) (hdr : Bytes) (tag : Tag) : Len → Bytes → Res (TLV × Bytes)
  | .definite n, r2 =>
    if n ≤ r2.length then
      if tag.constructed then
        (underrunToMalformed (parseAll cfg f (r2.take n))).map fun cs =>
          (.cons hdr tag false cs, r2.drop n)
      else .ok (.prim hdr tag (r2.take n), r2.drop n)
    else .error .underrun
  | .indefinite, r2 =>
    if !cfg.allowIndef then .error .malformed
    else if !tag.constructed then .error .malformed
    else (parseUntilEoo cfg f r2).map fun p => (.cons hdr tag true p.1, p.2)

theorem parseBody_prim {cfg : ParseCfg} {f : Nat} {hdr : Bytes} {tag : Tag} {n : Nat} {r2 : Bytes}
    (hn : n ≤ r2.length) (hc : tag.constructed = false) :
    parseBody cfg f hdr tag (.definite n) r2 = .ok (.prim hdr tag (r2.take n), r2.drop n) := by
  rw [parseBody, if_pos hn, hc]
  rfl

theorem parseBody_def {cfg : ParseCfg} {f : Nat} {hdr : Bytes} {tag : Tag} {n : Nat} {r2 : Bytes}
    (hn : n ≤ r2.length) (hc : tag.constructed = true) :
    parseBody cfg f hdr tag (.definite n) r2 =
      (underrunToMalformed (parseAll cfg f (r2.take n))).map fun cs =>
        (.cons hdr tag false cs, r2.drop n) := by
  rw [parseBody, if_pos hn, if_pos hc]

theorem parseBody_indef {cfg : ParseCfg} {f : Nat} {hdr : Bytes} {tag : Tag} {r2 : Bytes}
    (hi : cfg.allowIndef = true) (hc : tag.constructed = true) :
    parseBody cfg f hdr tag .indefinite r2 =
      (parseUntilEoo cfg f r2).map fun p => (.cons hdr tag true p.1, p.2) := by
  rw [parseBody, hi, hc]
  rfl

theorem parse_succ (cfg : ParseCfg) (f : Nat) (bs : Bytes) :
    parse cfg (f + 1) bs =
      (decodeTag bs).bind fun p => (decodeLength p.2).bind fun q =>
        parseBody cfg f (bs.take (bs.length - q.2.length)) p.1 q.1 q.2 := by
  rw [parse]
  cases decodeTag bs with
  | error e => rfl
  | ok p =>
    cases hq : decodeLength p.2 with
    | error e => simp only [hq, Res.bind_ok, Res.bind_error]
    | ok q =>
      obtain ⟨len, r2⟩ := q
      simp only [hq, Res.bind_ok]
      cases len with
      | definite n =>
        simp only [parseBody]
        cases underrunToMalformed (parseAll cfg f (r2.take n)) <;> rfl
      | indefinite =>
        simp only [parseBody]
        cases parseUntilEoo cfg f r2 <;> rfl

theorem parse_of_header {cfg : ParseCfg} {f : Nat} {bs : Bytes} {tag : Tag} {len : Len} {r1 r2 : Bytes}
    (h1 : decodeTag bs = .ok (tag, r1)) (h2 : decodeLength r1 = .ok (len, r2)) :
    parse cfg (f + 1) bs = parseBody cfg f (bs.take (bs.length - r2.length)) tag len r2 := by
  rw [parse_succ, h1]
  show (decodeLength r1).bind _ = _
  rw [h2]
  rfl

theorem parse_tag_err (cfg : ParseCfg) (f : Nat) (bs : Bytes) (e : Err)
    (h : decodeTag bs = .error e) : parse cfg (f + 1) bs = .error e := by
  rw [parse_succ, h]; rfl

theorem parse_len_err (cfg : ParseCfg) (f : Nat) (bs : Bytes) (tag : Tag) (r1 : Bytes) (e : Err)
    (h1 : decodeTag bs = .ok (tag, r1)) (h2 : decodeLength r1 = .error e) :
    parse cfg (f + 1) bs = .error e := by
  rw [parse_succ, h1, Res.bind_ok, h2]; rfl

theorem parseAll_step (cfg : ParseCfg) (f : Nat) (bs : Bytes) :
    parseAll cfg (f + 1) bs =
      if bs = [] then .ok []
      else (parse cfg f bs).bind fun p => (parseAll cfg f p.2).map (p.1 :: ·) := by
  match bs with
  | [] => rfl
  | b :: bs =>
    rw [parseAll, if_neg (List.cons_ne_nil b bs)]
    cases parse cfg f (b :: bs) with
    | error e => rfl
    | ok p => cases hp : parseAll cfg f p.2 <;> simp only [Res.bind_ok, hp] <;> rfl

/-- the end-of-octets probe: two octets are looked at, and fewer is an underrun; `00 00` ends the
    container -/
theorem parseUntil_step (cfg : ParseCfg) (f : Nat) (bs : Bytes) :
    parseUntilEoo cfg (f + 1) bs =
      if bs.length < 2 then .error .underrun
      else if bs.take 2 = eooBytes then .ok ([], bs.drop 2)
      else (parse cfg f bs).bind fun p =>
        (parseUntilEoo cfg f p.2).map fun q => (p.1 :: q.1, q.2) := by
  match bs with
  | [] => rfl
  | [_] => rfl
  | a :: b :: bs =>
    have hl : ¬(a :: b :: bs).length < 2 := Nat.not_lt.mpr (Nat.le_add_left 2 bs.length)
    rw [parseUntilEoo, if_neg hl]
    simp only [List.take_succ_cons, List.take_zero, eooBytes, List.cons.injEq, and_true,
      List.drop_succ_cons, List.drop_zero]
    split
    · rfl
    · cases parse cfg f (a :: b :: bs) with
      | error e => rfl
      | ok p => cases hp : parseUntilEoo cfg f p.2 <;> simp only [Res.bind_ok, hp] <;> rfl

/-- **induction over successful parses.**  A call of one of the three parsers succeeds in one of
    seven ways: a primitive element, a constructed one of either length form, no more components,
    a component and then more of them, the end-of-octets marker, a component before the marker.  A
    property of fuel, input and answer that follows in each of these from the same property of the
    calls made (with one unit of fuel less) holds of every successful call. -/
theorem parsers_ok_induct (cfg : ParseCfg) {P : Nat → Bytes → TLV → Bytes → Prop}
    {A : Nat → Bytes → List TLV → Prop} {U : Nat → Bytes → List TLV → Bytes → Prop}
    (prim : ∀ {f bs tag r1 n r2}, decodeTag bs = .ok (tag, r1) → decodeLength r1 = .ok (.definite n, r2) →
      n ≤ r2.length → tag.constructed = false →
      P (f + 1) bs (.prim (bs.take (bs.length - r2.length)) tag (r2.take n)) (r2.drop n))
    (consDef : ∀ {f bs tag r1 n r2 cs}, decodeTag bs = .ok (tag, r1) →
      decodeLength r1 = .ok (.definite n, r2) → n ≤ r2.length → tag.constructed = true →
      A f (r2.take n) cs →
      P (f + 1) bs (.cons (bs.take (bs.length - r2.length)) tag false cs) (r2.drop n))
    (consIndef : ∀ {f bs tag r1 r2 cs rest}, decodeTag bs = .ok (tag, r1) →
      decodeLength r1 = .ok (.indefinite, r2) → cfg.allowIndef = true → tag.constructed = true →
      U f r2 cs rest →
      P (f + 1) bs (.cons (bs.take (bs.length - r2.length)) tag true cs) rest)
    (nil : ∀ f, A (f + 1) [] [])
    (cons : ∀ {f bs t rest ts}, bs ≠ [] → parse cfg f bs = .ok (t, rest) → P f bs t rest →
      A f rest ts → A (f + 1) bs (t :: ts))
    (eoo : ∀ {f bs}, 2 ≤ bs.length → bs.take 2 = eooBytes → U (f + 1) bs [] (bs.drop 2))
    (more : ∀ {f bs t rest ts rest'}, 2 ≤ bs.length → bs.take 2 ≠ eooBytes →
      parse cfg f bs = .ok (t, rest) → P f bs t rest → U f rest ts rest' →
      U (f + 1) bs (t :: ts) rest') :
    ∀ f, (∀ bs t rest, parse cfg f bs = .ok (t, rest) → P f bs t rest) ∧
      (∀ bs cs, parseAll cfg f bs = .ok cs → A f bs cs) ∧
      (∀ bs cs rest, parseUntilEoo cfg f bs = .ok (cs, rest) → U f bs cs rest) := by
  intro f
  induction f with
  | zero => exact ⟨fun _ _ _ h => (nomatch h), fun _ _ h => (nomatch h), fun _ _ _ h => (nomatch h)⟩
  | succ f ih =>
    obtain ⟨ihP, ihA, ihU⟩ := ih
    refine ⟨fun bs t rest h => ?_, fun bs cs h => ?_, fun bs cs rest h => ?_⟩
    · rw [parse_succ] at h
      obtain ⟨⟨tag, r1⟩, h1, h⟩ := Res.bind_eq_ok.mp h
      obtain ⟨⟨len, r2⟩, h2, h⟩ := Res.bind_eq_ok.mp h
      cases len with
      | definite n =>
        by_cases hn : n ≤ r2.length
        · cases hc : tag.constructed with
          | false =>
            rw [parseBody_prim hn hc] at h
            obtain ⟨rfl, rfl⟩ := Prod.mk.inj (Except.ok.inj h)
            exact prim h1 h2 hn hc
          | true =>
            rw [parseBody_def hn hc] at h
            obtain ⟨cs, hcs, he⟩ := Res.map_eq_ok.mp h
            obtain ⟨rfl, rfl⟩ := Prod.mk.inj he
            exact consDef h1 h2 hn hc (ihA _ _ (underrunToMalformed_ok _ _ hcs))
        · rw [parseBody, if_neg hn] at h
          exact nomatch h
      | indefinite =>
        cases hi : cfg.allowIndef with
        | false => rw [parseBody, hi] at h; exact nomatch h
        | true =>
          cases hc : tag.constructed with
          | false => rw [parseBody, hi, hc] at h; exact nomatch h
          | true =>
            rw [parseBody_indef hi hc] at h
            obtain ⟨⟨cs, r⟩, hcs, he⟩ := Res.map_eq_ok.mp h
            obtain ⟨rfl, rfl⟩ := Prod.mk.inj he
            exact consIndef h1 h2 hi hc (ihU _ _ _ hcs)
    · rw [parseAll_step] at h
      split at h
      next he =>
        obtain rfl := Except.ok.inj h
        exact he ▸ nil f
      next hne =>
        obtain ⟨⟨t, rest⟩, hp, h⟩ := Res.bind_eq_ok.mp h
        obtain ⟨ts, hts, rfl⟩ := Res.map_eq_ok.mp h
        exact cons hne hp (ihP _ _ _ hp) (ihA _ _ hts)
    · rw [parseUntil_step] at h
      split at h
      next => exact nomatch h
      next h2 =>
        split at h
        next he =>
          obtain ⟨rfl, rfl⟩ := Prod.mk.inj (Except.ok.inj h)
          exact eoo (Nat.le_of_not_lt h2) he
        next he =>
          obtain ⟨⟨t, rest'⟩, hp, h⟩ := Res.bind_eq_ok.mp h
          obtain ⟨⟨ts, r⟩, hq, he'⟩ := Res.map_eq_ok.mp h
          obtain ⟨rfl, rfl⟩ := Prod.mk.inj he'
          exact more (Nat.le_of_not_lt h2) he hp (ihP _ _ _ hp) (ihU _ _ _ hq)

theorem notEoo_iff_take {b : Bytes} : NotEoo b ↔ b.take 2 ≠ eooBytes := by
  constructor
  · intro h he
    exact h (b.drop 2) (by rw [← List.take_append_drop 2 b, he]; simp [eooBytes])
  · rintro h rest rfl
    exact h rfl

theorem take_append_self (a b : Bytes) : (a ++ b).take a.length = a := by
  simp

theorem drop_append_self (a b : Bytes) : (a ++ b).drop a.length = b := by
  simp

/-- how `parse` recovers the header octets: the input less what follows the header -/
theorem take_hdr (hdr r2 : Bytes) : (hdr ++ r2).take ((hdr ++ r2).length - r2.length) = hdr := by
  rw [List.length_append, Nat.add_sub_cancel, take_append_self]

theorem parse_hdr (cfg : ParseCfg) (f : Nat) {h : Bytes} {tag : Tag} {len : Len} (hk : HdrOk h tag len)
    (body : Bytes) : parse cfg (f + 1) (h ++ body) = parseBody cfg f h tag len body := by
  obtain ⟨tb, lb, rfl, ht, hl⟩ := hk
  rw [parse_of_header (r1 := lb ++ body) (by rw [List.append_assoc]; exact ht _) (hl body), take_hdr]

theorem okFor_def {cfg : ParseCfg} {h : Bytes} {tag : Tag} {cs : List TLV}
    (ho : (TLV.cons h tag false cs).okFor cfg) : okForL cfg cs :=
  ho.imp_right fun ho => by simpa [TLV.allDef] using ho

theorem okFor_indef {cfg : ParseCfg} {h : Bytes} {tag : Tag} {cs : List TLV}
    (ho : (TLV.cons h tag true cs).okFor cfg) : cfg.allowIndef = true :=
  ho.resolve_right (by simp [TLV.allDef])

theorem okForL_cons {cfg : ParseCfg} {c : TLV} {cs : List TLV} (ho : okForL cfg (c :: cs)) :
    c.okFor cfg ∧ okForL cfg cs := by
  rcases ho with ho | ho
  · exact ⟨.inl ho, .inl ho⟩
  · simp only [allDefL, Bool.and_eq_true] at ho
    exact ⟨.inr ho.1, .inr ho.2⟩

theorem parseUntil_cons {cfg : ParseCfg} {f : Nat} {c : TLV} {tail : Bytes} (hw : c.WF)
    (hne : NotEoo c.ser) (hp : parse cfg f (c.ser ++ tail) = .ok (c, tail)) :
    parseUntilEoo cfg (f + 1) (c.ser ++ tail) =
      (parseUntilEoo cfg f tail).map fun q => (c :: q.1, q.2) := by
  have h2 := c.ser_length_ge hw
  rw [parseUntil_step, if_neg (by rw [List.length_append]; exact Nat.not_lt.mpr (Nat.le_add_right_of_le h2)),
    if_neg (by rw [List.take_append_of_le_length h2]; exact notEoo_iff_take.mp hne), hp]
  rfl

mutual
/-- **exact consumption**: a well-formed element followed by anything parses to itself and the tail -/
theorem parse_ser (cfg : ParseCfg) : ∀ (t : TLV) (f : Nat) (tail : Bytes),
    t.WF → t.okFor cfg → t.ser.length ≤ f → parse cfg f (t.ser ++ tail) = .ok (t, tail)
  | t, 0 => fun _ hw _ hf => by have := t.ser_length_ge hw; omega
  | .prim h tag c, f + 1 => fun tail hw _ _ => by
      rw [TLV.ser, List.append_assoc, parse_hdr cfg f hw.1, parseBody_prim (by simp) hw.2,
        take_append_self, drop_append_self]
  | .cons h tag false cs, f + 1 => fun tail hw ho hf => by
      obtain ⟨hk, hc, hws⟩ := hw
      have hall := parseAll_ser cfg cs f hws (okFor_def ho) (by
        have := hk.length_ge
        simp only [TLV.ser, List.length_append] at hf
        omega)
      rw [TLV.ser, if_neg (by decide), List.append_nil, List.append_assoc, parse_hdr cfg f hk,
        parseBody_def (by simp) hc, take_append_self, drop_append_self, hall]
      rfl
  | .cons h tag true cs, f + 1 => fun tail hw ho hf => by
      obtain ⟨hk, hc, hws, hne⟩ := hw
      have hall := parseUntil_ser cfg cs f tail hws hne (.inl (okFor_indef ho)) (by
        have := hk.length_ge
        simp only [TLV.ser, List.length_append] at hf
        omega)
      rw [TLV.ser, if_pos rfl, List.append_assoc, List.append_assoc, parse_hdr cfg f hk,
        parseBody_indef (okFor_indef ho) hc, hall]
      rfl
theorem parseAll_ser (cfg : ParseCfg) : ∀ (cs : List TLV) (f : Nat),
    WFs cs → okForL cfg cs → (serList cs).length + 1 ≤ f → parseAll cfg f (serList cs) = .ok cs
  | _, 0 => fun _ _ hf => nomatch hf
  | [], f + 1 => fun _ _ _ => rfl
  | c :: cs, f + 1 => fun hw ho hf => by
      have h2 := c.ser_length_ge hw.1
      simp only [serList, List.length_append] at hf
      have hne : c.ser ≠ [] := List.ne_nil_of_length_pos (Nat.lt_of_lt_of_le Nat.zero_lt_two h2)
      rw [parseAll_step, if_neg (by simp [serList, hne]), serList,
        parse_ser cfg c f _ hw.1 (okForL_cons ho).1 (by omega)]
      simp [parseAll_ser cfg cs f hw.2 (okForL_cons ho).2 (by omega)]
theorem parseUntil_ser (cfg : ParseCfg) : ∀ (cs : List TLV) (f : Nat) (tail : Bytes),
    WFs cs → NoEooL cs → okForL cfg cs → (serList cs).length + 1 ≤ f →
    parseUntilEoo cfg f (serList cs ++ (eooBytes ++ tail)) = .ok (cs, tail)
  | _, 0 => fun _ _ _ _ hf => nomatch hf
  | [], f + 1 => fun tail _ _ _ _ => rfl
  | c :: cs, f + 1 => fun tail hw hne ho hf => by
      have h2 := c.ser_length_ge hw.1
      simp only [serList, List.length_append] at hf
      rw [serList, List.append_assoc,
        parseUntil_cons hw.1 hne.1 (parse_ser cfg c f _ hw.1 (okForL_cons ho).1 (by omega)),
        parseUntil_ser cfg cs f tail hw.2 hne.2 (okForL_cons ho).2 (by omega)]
      rfl
end

/-- `Decoder.__call__` framing on the model: one element, the rest untouched -/
theorem parseOne_ser (cfg : ParseCfg) (t : TLV) (tail : Bytes) (hw : t.WF) (ho : t.okFor cfg) :
    parseOne cfg (t.ser ++ tail) = .ok (t, tail) := by
  unfold parseOne parseFuel
  exact parse_ser cfg t _ tail hw ho (by simp; omega)

end Asn1
