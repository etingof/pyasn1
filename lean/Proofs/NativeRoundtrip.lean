/-
  Proofs.NativeRoundtrip — native decoder ∘ native encoder is the identity on abstract content.
-/
import Asn1.Native
import Proofs.NativeText
import Proofs.NativeBase

namespace Asn1.Native

theorem allOk_map_rt {α β : Type} (f : α → Except Err β) (g : β → Except Err α) (xs : List α)
    (h : ∀ x ∈ xs, ∃ y, f x = .ok y ∧ g y = .ok x) :
    ∃ ys, allOk (xs.map f) = .ok ys ∧ allOk (ys.map g) = .ok xs := by
  induction xs with
  | nil => exact ⟨[], rfl, rfl⟩
  | cons x r ih =>
    obtain ⟨y, hy, gy⟩ := h x (by simp)
    obtain ⟨ys, hys, gys⟩ := ih (fun x hx => h x (by simp [hx]))
    refine ⟨y :: ys, ?_, ?_⟩
    · simp [List.map, allOk, hy, hys, Except.map]
    · simp [List.map, allOk, gy, gys, Except.map]

/-- an entry with a smaller key is never looked at by the members from position `j` on -/
theorem fromNativeFields_cons_lt : (fs : Fields) → ∀ (j k : Nat) (p : PyVal) (kvs : List (Nat × PyVal)),
    k < j → fromNativeFields fs j ((k, p) :: kvs) = fromNativeFields fs j kvs
  | .nil => fun _ _ _ _ _ => rfl
  | .cons kind t rest => fun j k p kvs h => by
    dsimp only [fromNativeFields]
    rw [lookupKey_ne p kvs (by omega : k ≠ j), fromNativeFields_cons_lt rest (j + 1) k p kvs (by omega)]

/-- The native encoder never refuses a value of the type, and the native decoder reads its output
    back as the same abstract content.  For the members from position `i` on, the mapping built has
    no key below `i`: that is why a member left out is read back as left out. -/
theorem rt_all :
    (∀ t v, HasType t v = true → ∃ p, toNative t v = .ok p ∧ fromNative t p = .ok v) ∧
    (∀ fs i v, HasAlt fs i v = true → ∀ pos, ∃ p, toNativeAlt fs pos i v = .ok (pos + i, p) ∧
      ∀ idx, fromNativeAlt fs idx i p = some (.ok (.choice idx v))) ∧
    (∀ fs vs, HasFields fs vs = true → ∀ i, ∃ kvs, toNativeFields fs i vs = .ok kvs ∧
      (∀ j < i, lookupKey j kvs = none) ∧ fromNativeFields fs i kvs = .ok vs) := by
  apply hasType_induct
  case tagged => exact fun _ _ _ _ _ _ ih => ih
  case boolean => exact fun b => ⟨.bool b, rfl, rfl⟩
  case integer => exact fun z => ⟨.int z, rfl, rfl⟩
  case enumerated => exact fun z => ⟨.int z, rfl, rfl⟩
  case bitString =>
    exact fun bs => ⟨_, rfl, congrArg (Except.map Val.bits) (parseBits_bitsText bs)⟩
  case null => exact ⟨.none, rfl, rfl⟩
  case oid =>
    exact fun arcs => ⟨_, rfl, congrArg (Except.map Val.oid) (parseOid_oidText arcs)⟩
  case real => exact fun r => ⟨.real r, rfl, rfl⟩
  case str => exact fun _ bs => ⟨.bytes bs, rfl, rfl⟩
  case any => exact fun bs => ⟨.bytes bs, rfl, rfl⟩
  case seq =>
    intro fs vs _ ih
    obtain ⟨kvs, h1, _, h2⟩ := ih 0
    exact ⟨.dict kvs, congrArg (Except.map PyVal.dict) h1, congrArg (Except.map Val.seq) h2⟩
  case set =>
    intro fs vs _ ih
    obtain ⟨kvs, h1, _, h2⟩ := ih 0
    exact ⟨.dict kvs, congrArg (Except.map PyVal.dict) h1, congrArg (Except.map Val.seq) h2⟩
  case seqOf =>
    intro t vs _ ih
    obtain ⟨ps, h1, h2⟩ := allOk_map_rt (toNative t) (fromNative t) vs ih
    exact ⟨.list ps, congrArg (Except.map PyVal.list) h1, congrArg (Except.map Val.seqOf) h2⟩
  case setOf =>
    intro t vs _ ih
    obtain ⟨ps, h1, h2⟩ := allOk_map_rt (toNative t) (fromNative t) vs ih
    exact ⟨.list ps, congrArg (Except.map PyVal.list) h1, congrArg (Except.map Val.seqOf) h2⟩
  case choice =>
    intro fs i v _ ih
    obtain ⟨p, h1, h2⟩ := ih 0
    refine ⟨.dict [(0 + i, p)], congrArg (Except.map fun p => PyVal.dict [p]) h1, ?_⟩
    dsimp only [fromNative, List.map]
    rw [Nat.zero_add, h2 i]
    rfl
  case here =>
    intro k t rest v _ ih pos
    obtain ⟨p, h1, h2⟩ := ih
    exact ⟨p, congrArg (Except.map (pos, ·)) h1,
      fun idx => congrArg (fun r => some (Except.map (Val.choice idx) r)) h2⟩
  case there =>
    intro k t rest i v _ ih pos
    obtain ⟨p, h1, h2⟩ := ih (pos + 1)
    refine ⟨p, ?_, h2⟩
    dsimp only [toNativeAlt]
    rw [h1, Nat.add_assoc, Nat.add_comm 1]
  case nil => exact fun i => ⟨[], rfl, fun _ _ => rfl, rfl⟩
  case absent =>
    intro t rest vs _ ih i
    obtain ⟨kvs, h1, h2, h3⟩ := ih (i + 1)
    refine ⟨kvs, ?_, fun j hj => h2 j (by omega), ?_⟩
    · exact h1
    · dsimp only [fromNativeFields]
      rw [h2 i (by omega), h3]; rfl
  case present =>
    intro k t rest v vs hv ihv _ ih i
    obtain ⟨p, hp1, hp2⟩ := ihv
    obtain ⟨kvs, h1, h2, h3⟩ := ih (i + 1)
    refine ⟨(i, p) :: kvs, ?_, fun j hj => ?_, ?_⟩
    · dsimp only [toNativeFields]
      rw [isAbsent_of_hasType hv, Bool.and_false, if_neg nofun, hp1, h1]; rfl
    · rw [lookupKey_ne _ _ (by omega)]; exact h2 j (by omega)
    · dsimp only [fromNativeFields]
      simp only [lookupKey_self, hp2, fromNativeFields_cons_lt rest (i + 1) i p kvs (by omega), h3]; rfl

theorem rt (t : Ty) (v : Val) (h : HasType t v = true) :
    ∃ p, toNative t v = .ok p ∧ fromNative t p = .ok v :=
  rt_all.1 t v h

theorem rtFields : (fs : Fields) → ∀ (i : Nat) (vs : List Val), HasFields fs vs = true →
    ∃ kvs, toNativeFields fs i vs = .ok kvs ∧ fromNativeFields fs i kvs = .ok vs :=
  fun fs i vs h => (rt_all.2.2 fs vs h i).imp fun _ h => ⟨h.1, h.2.2⟩

theorem rtAlt : (fs : Fields) → ∀ (pos i : Nat) (v : Val), HasAlt fs i v = true →
    ∃ p, toNativeAlt fs pos i v = .ok (pos + i, p) ∧
      ∀ idx, fromNativeAlt fs idx i p = some (.ok (.choice idx v)) :=
  fun fs pos i v h => rt_all.2.1 fs i v h pos

end Asn1.Native
