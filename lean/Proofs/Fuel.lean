/-
  Proofs.Fuel — termination of the parser on *arbitrary* input (the syntactic half of C08): a successful
  step consumes at least two octets, so fuel `|input| + 2` never runs out, whatever the bytes are.
-/
import Proofs.Prefix

namespace Asn1

/-- the identifier and the length take an octet each at least -/
theorem header_consumes {bs r1 r2 : Bytes} {tag : Tag} {len : Len} (h1 : decodeTag bs = .ok (tag, r1))
    (h2 : decodeLength r1 = .ok (len, r2)) : r2.length + 2 ≤ bs.length := by
  have := decodeTag_reads.len h1
  have := decodeLength_reads.len h2
  omega

theorem parsers_consume (cfg : ParseCfg) : ∀ f : Nat,
    (∀ bs t rest, parse cfg f bs = .ok (t, rest) → rest.length + 2 ≤ bs.length) ∧
    (∀ bs cs, parseAll cfg f bs = .ok cs → True) ∧
    (∀ bs cs rest, parseUntilEoo cfg f bs = .ok (cs, rest) → rest.length + 2 ≤ bs.length) :=
  parsers_ok_induct cfg (A := fun _ _ _ => True)
    (prim := fun h1 h2 _ _ => by
      have := header_consumes h1 h2
      rw [List.length_drop]; omega)
    (consDef := fun h1 h2 _ _ _ => by
      have := header_consumes h1 h2
      rw [List.length_drop]; omega)
    (consIndef := fun h1 h2 _ _ ih => by
      have := header_consumes h1 h2
      omega)
    (nil := fun _ => trivial)
    (cons := fun _ _ _ _ => trivial)
    (eoo := fun h2 _ => by rw [List.length_drop]; omega)
    (more := fun _ _ _ ihp ihu => by omega)

theorem parse_consumes (cfg : ParseCfg) : ∀ (f : Nat) (bs : Bytes) (t : TLV) (rest : Bytes),
    parse cfg f bs = .ok (t, rest) → rest.length + 2 ≤ bs.length :=
  fun f => (parsers_consume cfg f).1
theorem parseUntil_consumes (cfg : ParseCfg) : ∀ (f : Nat) (bs : Bytes) (cs : List TLV) (rest : Bytes),
    parseUntilEoo cfg f bs = .ok (cs, rest) → rest.length + 2 ≤ bs.length :=
  fun f => (parsers_consume cfg f).2.2

theorem ne_fuel_of_underrun {α : Type} {x : Res α} (h : ∀ e, x = .error e → e = .underrun) :
    x ≠ .error .fuel :=
  fun he => nomatch h _ he

theorem parseBody_ne_fuel {cfg : ParseCfg} {f : Nat} {r2 : Bytes}
    (hA : ∀ n, parseAll cfg f (r2.take n) ≠ .error .fuel) (hU : parseUntilEoo cfg f r2 ≠ .error .fuel)
    (hdr : Bytes) (tag : Tag) (len : Len) : parseBody cfg f hdr tag len r2 ≠ .error .fuel := by
  cases len with
  | definite n =>
    exact Res.ite_ne_fuel _
      (Res.ite_ne_fuel _ (Res.map_ne_fuel _ (underrunToMalformed_ne_fuel _ (hA n))) nofun) nofun
  | indefinite => exact Res.ite_ne_fuel _ nofun (Res.ite_ne_fuel _ nofun (Res.map_ne_fuel _ hU))

mutual
/-- **no fuel exhaustion on any input**: `|bs| + 2` units of fuel always suffice -/
theorem parse_ne_fuel (cfg : ParseCfg) : ∀ (f : Nat) (bs : Bytes),
    bs.length + 2 ≤ f → parse cfg f bs ≠ .error .fuel
  | 0 => fun _ hf => nomatch hf
  | f + 1 => fun bs hf => by
      rw [parse_succ]
      refine Res.bind_ne_fuel (ne_fuel_of_underrun (decodeTag_prefixDecoder.err bs)) fun p h1 =>
        Res.bind_ne_fuel (ne_fuel_of_underrun (decodeLength_prefixDecoder.err p.2)) fun q h2 => ?_
      -- the header took two octets at least, so what follows it has its `+ 3` of fuel
      have hq : q.2.length + 3 ≤ f := by
        have := header_consumes h1 h2
        omega
      exact parseBody_ne_fuel
        (fun n => parseAll_ne_fuel cfg f _ (Nat.le_trans (Nat.add_le_add_right (List.length_take_le' ..) 3) hq))
        (parseUntil_ne_fuel cfg f _ hq) _ _ _
theorem parseAll_ne_fuel (cfg : ParseCfg) : ∀ (f : Nat) (bs : Bytes),
    bs.length + 3 ≤ f → parseAll cfg f bs ≠ .error .fuel
  | 0 => fun _ hf => nomatch hf
  | f + 1 => fun bs hf => by
      rw [parseAll_step]
      refine Res.ite_ne_fuel _ nofun <|
        Res.bind_ne_fuel (parse_ne_fuel cfg f _ (Nat.le_of_succ_le_succ hf)) fun p hp =>
          Res.map_ne_fuel _ (parseAll_ne_fuel cfg f p.2 ?_)
      have := parse_consumes cfg f _ p.1 p.2 hp
      omega
theorem parseUntil_ne_fuel (cfg : ParseCfg) : ∀ (f : Nat) (bs : Bytes),
    bs.length + 3 ≤ f → parseUntilEoo cfg f bs ≠ .error .fuel
  | 0 => fun _ hf => nomatch hf
  | f + 1 => fun bs hf => by
      rw [parseUntil_step]
      refine Res.ite_ne_fuel _ nofun <| Res.ite_ne_fuel _ nofun <|
        Res.bind_ne_fuel (parse_ne_fuel cfg f _ (Nat.le_of_succ_le_succ hf)) fun p hp =>
          Res.map_ne_fuel _ (parseUntil_ne_fuel cfg f p.2 ?_)
      have := parse_consumes cfg f _ p.1 p.2 hp
      omega
end

/-- `Decoder.__call__` on the model never runs out of fuel, for any byte string -/
theorem parseOne_ne_fuel (cfg : ParseCfg) (bs : Bytes) : parseOne cfg bs ≠ .error .fuel :=
  parse_ne_fuel cfg _ bs (by simp [parseFuel])

theorem parseBody_fuelExt {cfg : ParseCfg} {f g : Nat}
    (hA : ∀ bs, FuelExt (parseAll cfg f bs) (parseAll cfg g bs))
    (hU : ∀ bs, FuelExt (parseUntilEoo cfg f bs) (parseUntilEoo cfg g bs))
    (hdr : Bytes) (tag : Tag) (len : Len) (r2 : Bytes) :
    FuelExt (parseBody cfg f hdr tag len r2) (parseBody cfg g hdr tag len r2) := by
  cases len with
  | definite n => exact .ite _ (.ite _ (.map _ (hA _).underrunToMalformed) (.refl _)) (.refl _)
  | indefinite => exact .ite _ (.refl _) (.ite _ (.refl _) (.map _ (hU _)))

mutual
theorem parse_fuel_succ (cfg : ParseCfg) : ∀ (f : Nat) (bs : Bytes),
    parse cfg f bs ≠ .error .fuel → parse cfg (f + 1) bs = parse cfg f bs
  | 0 => fun bs h => absurd rfl h
  | f + 1 => fun bs h => by
      rw [parse_succ] at h
      rw [parse_succ, parse_succ]
      exact FuelExt.bind (.refl _) (fun p => .bind (.refl _) fun q =>
        parseBody_fuelExt (parseAll_fuel_succ cfg f) (parseUntil_fuel_succ cfg f) _ _ _ _) h
theorem parseAll_fuel_succ (cfg : ParseCfg) : ∀ (f : Nat) (bs : Bytes),
    parseAll cfg f bs ≠ .error .fuel → parseAll cfg (f + 1) bs = parseAll cfg f bs
  | 0 => fun bs h => absurd rfl h
  | f + 1 => fun bs h => by
      rw [parseAll_step] at h
      rw [parseAll_step, parseAll_step]
      exact FuelExt.ite _ (.refl _)
        (.bind (parse_fuel_succ cfg f _) fun p => .map _ (parseAll_fuel_succ cfg f _)) h
theorem parseUntil_fuel_succ (cfg : ParseCfg) : ∀ (f : Nat) (bs : Bytes),
    parseUntilEoo cfg f bs ≠ .error .fuel → parseUntilEoo cfg (f + 1) bs = parseUntilEoo cfg f bs
  | 0 => fun bs h => absurd rfl h
  | f + 1 => fun bs h => by
      rw [parseUntil_step] at h
      rw [parseUntil_step, parseUntil_step]
      exact FuelExt.ite _ (.refl _) (.ite _ (.refl _)
        (.bind (parse_fuel_succ cfg f _) fun p => .map _ (parseUntil_fuel_succ cfg f _))) h
end

theorem parse_fuel_mono (cfg : ParseCfg) (f g : Nat) (bs : Bytes) (hfg : f ≤ g)
    (h : parse cfg f bs ≠ .error .fuel) : parse cfg g bs = parse cfg f bs := by
  induction hfg with
  | refl => rfl
  | step _ ih => rw [parse_fuel_succ cfg _ bs (by rw [ih]; exact h), ih]

/-- one-shot framing of a truncated element: `Decoder.__call__` on a proper prefix of a
    well-formed encoding reports insufficient data -/
theorem parseOne_take (cfg : ParseCfg) (t : TLV) (k : Nat) (hw : t.WF) (ho : t.okFor cfg)
    (hk : k < t.ser.length) : parseOne cfg (t.ser.take k) = .error .underrun := by
  unfold parseOne
  rw [← parse_fuel_mono cfg _ (t.ser.length + parseFuel (t.ser.take k)) _ (Nat.le_add_left ..)
    (parseOne_ne_fuel cfg _)]
  exact parse_take cfg t _ k hw ho (Nat.le_add_right ..) hk

end Asn1
