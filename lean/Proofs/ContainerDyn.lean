/-
  Proofs.ContainerDyn — SEQUENCE / SET objects WITHOUT declared fields (dynamic names field-0, …)
  refine a plain growing list: on the representation `DynSpec.rep s` every allowed operation of the
  object model does what the prototype does.
-/
import Asn1.Container
import Proofs.ContainerRec

namespace Asn1.Container
open DynSpec

theorem dyn_getD (s : St) : (rep s).comps.getD [] = (s.getD []).map Comp.val := by
  cases s <;> rfl

theorem dyn_dyn (s : St) : (rep s).dyn = size s := by
  cases s <;> simp [rep, size]

theorem dyn_slot (s : St) (i : Int) :
    Rec.slot ((s.getD []).map Comp.val) i =
      (pyIdx (size s) i).bind (fun k => ((s.getD [])[k]?).map Comp.val) := by
  rw [Rec.slot, List.length_map, size]
  cases pyIdx (s.getD []).length i with
  | none => rfl
  | some k => exact List.getElem?_map

theorem dyn_cur_hole (s : St) (i : Int) :
    ((Rec.slot ((s.getD []).map Comp.val) i).getD Comp.hole).isHole = !(has s i) := by
  rw [dyn_slot]
  unfold has
  cases hk : pyIdx (size s) i with
  | none => rfl
  | some k =>
    have := pyIdx_lt hk
    simp [List.getElem?_eq_getElem (show k < (s.getD []).length by simpa [size] using this), Comp.isHole]

theorem dyn_setAt_obj (s : St) (i : Int) (z : Int) :
    Rec.setAt [] (rep s) i (some (.obj z)) = (DynSpec.setAt s i (.obj z)).map rep := by
  unfold Rec.setAt DynSpec.setAt
  simp only [List.length_nil, ne_eq, not_true_eq_false, if_false, dyn_getD, dyn_dyn, List.length_map, size]
  split
  · simp [rep, List.map_set, setNth_eq_set]
  · split
    · simp [rep, List.map_append]
    · rfl

/-- assignment on the representation: a bare value is cast by the component already there — with one
    it is stored like an object, without one it is refused -/
theorem dyn_setAt (s : St) (i : Int) (a : Arg) :
    Rec.setAt [] (rep s) i (some a) = (DynSpec.setAt s i a).map rep := by
  cases a with
  | bad => unfold Rec.setAt; rfl
  | obj z => exact dyn_setAt_obj s i z
  | py z =>
    have h1 : Rec.setAt [] (rep s) i (some (.py z)) =
        if has s i then Rec.setAt [] (rep s) i (some (.obj z)) else none := by
      unfold Rec.setAt
      simp only [List.length_nil, ne_eq, not_true_eq_false, if_false, dyn_getD, dyn_cur_hole]
      cases has s i <;> rfl
    have h2 : DynSpec.setAt s i (.py z) = if has s i then DynSpec.setAt s i (.obj z) else none := by
      unfold DynSpec.setAt
      cases has s i <;> rfl
    rw [h1, h2, dyn_setAt_obj]
    cases has s i <;> rfl

theorem dyn_setNone (s : St) (i : Int) (h : has s i = false) : Rec.setAt [] (rep s) i none = none := by
  unfold Rec.setAt
  simp only [List.length_nil, ne_eq, not_true_eq_false, if_false, dyn_getD, dyn_cur_hole, h, Bool.not_false, if_true]

theorem dyn_getAt (s : St) (i : Int) (inst : Bool) :
    Rec.getAt [] (rep s) i inst = (rep s, DynSpec.getAt s i inst) := by
  unfold Rec.getAt DynSpec.getAt
  rw [bind_slot, dyn_getD, dyn_slot]
  cases hk : pyIdx (size s) i with
  | none =>
    have hh : has s i = false := by simp [has, hk]
    cases inst with
    | false => simp [Comp.isVal]
    | true => simp [Comp.isHole, dyn_setNone s i hh]
  | some k =>
    have hkl := pyIdx_lt hk
    have hlt : k < (s.getD []).length := by simpa [size] using hkl
    simp only [Option.bind_some, List.getElem?_eq_getElem hlt, Option.map_some, Option.getD_some]
    cases inst <;> simp [Comp.isVal, Comp.isHole]

theorem dyn_getMany (s : St) (ks : List Nat) (hks : ∀ k ∈ ks, k < size s) :
    Rec.getMany [] (rep s) ks = (rep s, some (ks.filterMap fun k => ((s.getD [])[k]?).map Comp.val)) := by
  induction ks with
  | nil => rfl
  | cons k ks ih =>
    have hk : k < size s := hks k List.mem_cons_self
    have hlt : k < (s.getD []).length := by simpa [size] using hk
    have hp : pyIdx (size s) (k : Int) = some k := pyIdx_nat hk
    simp only [Rec.getMany, dyn_getAt, DynSpec.getAt, hp, List.getElem?_eq_getElem hlt, Option.map_some,
      Option.getD_some, ih (fun k' h' => hks k' (List.mem_cons_of_mem _ h')), List.filterMap_cons]

theorem dyn_all (s : St) :
    Rec.getMany [] (rep s) (List.range (size s)) = (rep s, some ((s.getD []).map Comp.val)) := by
  rw [dyn_getMany s _ fun k => List.mem_range.mp, size, ← List.map_filterMap, filterMap_range_get]

theorem dyn_posOfName (s : St) (k : Nat) : Rec.posOfName [] (rep s) k = DynSpec.posOfName s k := by
  simp [Rec.posOfName, DynSpec.posOfName, Rec.nNames, dyn_dyn]

theorem dyn_setOut (s : St) {p p' : Option Int} (hp : p = p') (a : Arg) (err : Out) :
    Rec.setOut [] (rep s) p (some a) err = (rep (DynSpec.setOut s p' a err).1, (DynSpec.setOut s p' a err).2) := by
  subst hp
  cases p with
  | none => rfl
  | some i =>
    simp only [Rec.setOut, DynSpec.setOut, dyn_setAt]
    cases DynSpec.setAt s i a <;> rfl

/-- a list of values has no gap: all of it is its longest prefix of non-holes -/
theorem span_vals (l : List Int) :
    (l.map Comp.val).takeWhile (fun c => !c.isHole) = l.map Comp.val ∧
    (l.map Comp.val).dropWhile (fun c => !c.isHole) = [] := by
  induction l with
  | nil => exact ⟨rfl, rfl⟩
  | cons z l ih => exact ⟨congrArg (Comp.val z :: ·) ih.1, ih.2⟩

/-- **one step** of a record without declared fields against the growing-list prototype -/
theorem dyn_step (s : St) (op : RecOp) (hal : DynSpec.Allowed s op = true) :
    Rec.step [] (rep s) op = (rep (DynSpec.step s op).1, (DynSpec.step s op).2) := by
  cases op with
  | setItemPos i a => exact dyn_setOut s (p := some i) rfl a .lookupErr
  | setPos i a => exact dyn_setOut s (p := some i) rfl a .libErr
  | setItemName k a | setName k a => exact dyn_setOut s (dyn_posOfName s k) a _
  | setType k a | getType k a => rfl
  | setNone i =>
    dsimp only [DynSpec.Allowed] at hal
    rw [Bool.not_eq_true'] at hal
    dsimp only [Rec.step, DynSpec.step]
    simp only [Rec.setOut, dyn_setNone s i hal]
  | clear | reset => rfl
  | clone flag =>
    cases flag with
    | false => rfl
    | true =>
      cases s with
      | none => rfl
      | some l => dsimp only [Rec.step, DynSpec.step]; simp [rep, span_vals l]
  | len | eqTo _ => dsimp only [Rec.step, DynSpec.step]; cases s <;> simp [rep]
  | keys | contains k => dsimp only [Rec.step, DynSpec.step]; simp only [Rec.nNames, dyn_dyn]; rfl
  | getItemPos i | getPos i inst => dsimp only [Rec.step, DynSpec.step]; simp only [dyn_getAt]
  | getItemName k | getName k inst =>
    dsimp only [Rec.step, DynSpec.step]
    simp only [dyn_posOfName]
    cases DynSpec.posOfName s k <;> simp only [dyn_getAt]
  | values | items | encode _ => dsimp only [Rec.step, DynSpec.step]; simp [Rec.nNames, dyn_dyn, dyn_all]
  | pretty =>
    cases s with
    | none => rfl
    | some l =>
      dsimp only [Rec.step, DynSpec.step]
      simp only [rep]
      rw [filter_enumFrom_self Comp.isVal 0 _ (List.forall_mem_map.mpr fun _ _ => rfl)]

end Asn1.Container
