/-
  Proofs.KernelConstraint — the leaf tests of pyasn1/type/constraint.py (`_testValue` of ValueRangeConstraint,
  ValueSizeConstraint, SingleValueConstraint, PermittedAlphabetConstraint; translated into `GenK.rangeTest` / `sizeTest` /
  `singleValueTest` / `alphabetTest`) are the leaf tests of `Asn1.Constraint` (`inRange` / `inSize` / `inSet` /
  `inAlphabet`) on integer and octet payloads; the set operations over them (`_testValue` of ConstraintsIntersection /
  ConstraintsUnion / ConstraintsExclusion, translated into `GenK.intersectionTest` / `unionTest` / `exclusionTest`) are
  the model's `runAll` / `runAny` / `runNone`.
-/
import Asn1.GenKernels
import Asn1.Constraint

namespace Asn1.Kernels
open Py Asn1.Constraint

/-- a rejection is `ValueConstraintError` -/
def liftRes : Asn1.Constraint.Res → Py.M Unit
  | .accept => .ok ()
  | .reject => .error (.lib "ValueConstraintError")
  | .leak => .error (.lib "TypeError")

/-- `if a or b: raise ValueConstraintError` -/
theorem rejectIf_eq (p q : Prop) [Decidable p] [Decidable q] :
    (if (decide p || decide q) = true then (throw (.lib "ValueConstraintError") : Py.M Unit) else pure ()) =
      liftRes (if p ∨ q then .reject else .accept) := by
  rw [← Bool.decide_or]
  by_cases h : p ∨ q <;> simp only [h, decide_true, decide_false, if_true, if_false, Bool.false_eq_true] <;> rfl

theorem rangeTest_kernel (lo hi z : Int) :
    GenK.rangeTest lo hi z = liftRes (inRange lo hi (.atom (.int z))) :=
  rejectIf_eq (z < lo) (z > hi)

theorem sizeTest_kernel (lo hi : Int) (bs : List Nat) :
    GenK.sizeTest lo hi (bs.map Int.ofNat) = liftRes (inSize lo hi (.atom (.bytes bs))) := by
  have hl : Py.len (bs.map Int.ofNat) = (bs.length : Int) := by simp [Py.len]
  unfold GenK.sizeTest
  rw [hl]
  exact rejectIf_eq ((bs.length : Int) < lo) ((bs.length : Int) > hi)

theorem mem_map_int (s : List Int) (z : Int) : (Atom.int z ∈ s.map Atom.int) ↔ z ∈ s := by
  simp [List.mem_map]

theorem singleValueTest_kernel (s : List Int) (z : Int) :
    GenK.singleValueTest s z = liftRes (inSet (s.map Atom.int) (.atom (.int z))) := by
  unfold GenK.singleValueTest inSet Py.mem
  by_cases h : z ∈ s
  · have hc : s.contains z = true := by simpa using h
    simp only [hc, Bool.not_true, Bool.false_eq_true, if_false, (mem_map_int s z).mpr h, if_true, liftRes]; rfl
  · have hc : s.contains z = false := by simpa using h
    have hm : ¬ (Atom.int z ∈ s.map Atom.int) := fun h0 => h ((mem_map_int s z).mp h0)
    simp only [hc, Bool.not_false, if_true, hm, if_false, liftRes]; rfl

theorem alphabetTest_kernel (s : List Int) (bs : List Nat) :
    GenK.alphabetTest s (bs.map Int.ofNat) = liftRes (inAlphabet (s.map Atom.int) (.atom (.bytes bs))) := by
  unfold GenK.alphabetTest inAlphabet Py.issuperset
  simp only [CVal.elems]
  have hall : (bs.map Int.ofNat).all (fun x => s.contains x) =
      (bs.map fun b => Atom.int (b : Nat)).all (fun e => decide (e ∈ s.map Atom.int)) := by
    simp only [List.all_map]
    congr 1
    funext b
    simp only [Function.comp]
    by_cases h : ((b : Nat) : Int) ∈ s
    · have : Atom.int (b : Nat) ∈ s.map Atom.int := (mem_map_int s _).mpr h
      simp [h, this]
    · have : ¬ Atom.int (b : Nat) ∈ s.map Atom.int := fun h0 => h ((mem_map_int s _).mp h0)
      simp [h, this]
  rw [hall]
  cases (bs.map fun b => Atom.int (b : Nat)).all (fun e => decide (e ∈ s.map Atom.int)) <;> simp [liftRes] <;> rfl

/-! ### the set operations: `_testValue` of ConstraintsIntersection / ConstraintsUnion / ConstraintsExclusion

The operands are handles (ints) and calling one (`constraint(value, idx)`) is a callback parameter of the translated
code; the theorems hold for whatever the handles stand for (`r : Int → Constr`). -/

/-- verdicts of the operands, combined as an intersection / a union / an exclusion does -/
def allR : List Asn1.Constraint.Res → Asn1.Constraint.Res
  | [] => .accept
  | .accept :: t => allR t
  | x :: _ => x
def anyR : List Asn1.Constraint.Res → Asn1.Constraint.Res
  | [] => .reject
  | .accept :: _ => .accept
  | .reject :: t => anyR t
  | .leak :: _ => .leak
def noneR : List Asn1.Constraint.Res → Asn1.Constraint.Res
  | [] => .accept
  | .accept :: _ => .reject
  | .reject :: t => noneR t
  | .leak :: _ => .leak

theorem runAll_ofCons {α} (r : α → Constr) (ks : List α) (i : Option Nat) (v : CVal) :
    runAll (Ops.ofCons (ks.map r)) [] i v = allR (ks.map fun k => run (r k) i v) := by
  induction ks with
  | nil => simp [Ops.ofCons, runAll, allR]
  | cons k rest ih =>
    simp only [Ops.ofCons, runAll, List.map_cons, ih]
    cases run (r k) i v <;> rfl

theorem runAny_ofCons {α} (r : α → Constr) (ks : List α) (i : Option Nat) (v : CVal) :
    runAny (Ops.ofCons (ks.map r)) i v = anyR (ks.map fun k => run (r k) i v) := by
  induction ks with
  | nil => simp [Ops.ofCons, runAny, anyR]
  | cons k rest ih =>
    simp only [Ops.ofCons, runAny, List.map_cons, ih]
    cases run (r k) i v <;> rfl

theorem runNone_ofCons {α} (r : α → Constr) (ks : List α) (i : Option Nat) (v : CVal) :
    runNone (Ops.ofCons (ks.map r)) i v = noneR (ks.map fun k => run (r k) i v) := by
  induction ks with
  | nil => simp [Ops.ofCons, runNone, noneR]
  | cons k rest ih =>
    simp only [Ops.ofCons, runNone, List.map_cons, ih]
    cases run (r k) i v <;> rfl

theorem intersectionTest_loop1_spec (o : Int → Py.M Unit) (f : Int → Asn1.Constraint.Res)
    (ho : ∀ k, o k = liftRes (f k)) : ∀ ks : Py.Tup,
    GenK.intersectionTest_loop1 o ks = liftRes (allR (ks.map f))
  | [] => rfl
  | k :: rest => by
    simp only [GenK.intersectionTest_loop1, List.map_cons, bind, Except.bind, ho k]
    cases h : f k
    · simp only [liftRes, allR]; exact intersectionTest_loop1_spec o f ho rest
    · rfl
    · rfl

/-- what the union loop answers: left = an operand accepted (the function returns), right = all refused -/
def unionOut : Asn1.Constraint.Res → Py.M (Sum Unit Unit)
  | .accept => .ok (Sum.inl ())
  | .reject => .ok (Sum.inr ())
  | .leak => .error (.lib "TypeError")

theorem unionTest_loop1_spec (o : Int → Py.M Unit) (f : Int → Asn1.Constraint.Res)
    (ho : ∀ k, o k = liftRes (f k)) : ∀ ks : Py.Tup,
    GenK.unionTest_loop1 o ks = unionOut (anyR (ks.map f))
  | [] => rfl
  | k :: rest => by
    simp only [GenK.unionTest_loop1, List.map_cons, bind, Except.bind, ho k]
    cases h : f k
    · rfl
    · have ih := unionTest_loop1_spec o f ho rest
      simp only [liftRes, anyR]
      rw [← ih]; rfl
    · rfl

theorem exclusionTest_loop1_spec (o : Int → Py.M Unit) (f : Int → Asn1.Constraint.Res)
    (ho : ∀ k, o k = liftRes (f k)) : ∀ ks : Py.Tup,
    GenK.exclusionTest_loop1 o ks = liftRes (noneR (ks.map f))
  | [] => rfl
  | k :: rest => by
    simp only [GenK.exclusionTest_loop1, List.map_cons, bind, Except.bind, ho k]
    cases h : f k
    · rfl
    · have ih := exclusionTest_loop1_spec o f ho rest
      rw [ih]; rfl
    · rfl

theorem ofCons_isNil {α} (r : α → Constr) (ks : List α) (h : ks ≠ []) : (Ops.ofCons (ks.map r)).isNil = false := by
  cases ks with
  | nil => exact absurd rfl h
  | cons k rest => rfl

/-- `ConstraintsIntersection._testValue` as it is in the source: every operand, in order, the first refusal (or crash)
    is the outcome - the model's evaluation of an intersection -/
theorem intersectionTest_kernel (r : Int → Constr) (ks : Py.Tup) (hk : ks ≠ []) (i : Option Nat) (v : CVal) :
    GenK.intersectionTest ks (fun k => liftRes (run (r k) i v)) = liftRes (run (intersection (ks.map r)) i v) := by
  unfold GenK.intersectionTest
  rw [intersectionTest_loop1_spec _ (fun k => run (r k) i v) (fun _ => rfl)]
  simp only [run, intersection, ofCons_isNil r ks hk, Bool.false_eq_true, if_false, runAll_ofCons, bind, Except.bind]
  cases allR (ks.map fun k => run (r k) i v) <;> rfl

/-- `ConstraintsUnion._testValue`: the first operand that accepts wins; all refusing is a refusal -/
theorem unionTest_kernel (r : Int → Constr) (ks : Py.Tup) (hk : ks ≠ []) (i : Option Nat) (v : CVal) :
    GenK.unionTest ks (fun k => liftRes (run (r k) i v)) = liftRes (run (union (ks.map r)) i v) := by
  unfold GenK.unionTest
  rw [unionTest_loop1_spec _ (fun k => run (r k) i v) (fun _ => rfl)]
  simp only [run, union, ofCons_isNil r ks hk, Bool.false_eq_true, if_false, runAny_ofCons, bind, Except.bind]
  cases anyR (ks.map fun k => run (r k) i v) <;> rfl

/-- `ConstraintsExclusion._testValue`: accepted exactly when every operand refuses -/
theorem exclusionTest_kernel (r : Int → Constr) (ks : Py.Tup) (hk : ks ≠ []) (i : Option Nat) (v : CVal) :
    GenK.exclusionTest ks (fun k => liftRes (run (r k) i v)) = liftRes (run (exclusion (ks.map r)) i v) := by
  unfold GenK.exclusionTest
  rw [exclusionTest_loop1_spec _ (fun k => run (r k) i v) (fun _ => rfl)]
  simp only [run, exclusion, ofCons_isNil r ks hk, Bool.false_eq_true, if_false, runNone_ofCons, bind, Except.bind]
  cases noneR (ks.map fun k => run (r k) i v) <;> rfl

end Asn1.Kernels
