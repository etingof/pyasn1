/-
  Proofs.X690Der — the DER encoder model writes exactly the encoding the X.690 transcription
  (`Asn1.X690.der`) defines, for every type and value of the region.
  `X690.derElem` recurses on the *type* (one wrapper per tagging step); the encoder model loops over
  the *tag list* of the type.  `der_bridge` relates the two; `x_content` and its companions are the
  induction on the type.  The SEQUENCE case there goes through the SET case: its contents are the members the
  SET encoder collects, unsorted (`encFields_eq_setMembers`, `fields_x`).
-/
import Asn1.X690
import Asn1.Encoder
import Proofs.X690Prim
import Proofs.X690Sort
import Proofs.EncSpec

namespace Asn1

open X690

/-- wrap the contents in one definite-length header per tag, innermost first -/
def wrapL (ic : Bool) : Bytes → List Tag → Bytes
  | c, [] => c
  | c, t :: ts => wrapL ic (ident t.cls (t.constructed || ic) t.num ++ len c.length ++ c) ts

theorem wrapL_append (ic : Bool) : ∀ (ts : List Tag) (c : Bytes) (o : Tag),
    wrapL ic c (ts ++ [o]) =
      ident o.cls (o.constructed || ic) o.num ++ len (wrapL ic c ts).length ++ wrapL ic c ts
  | [], c, o => rfl
  | t :: ts, c, o => by simp only [List.cons_append, wrapL]; exact wrapL_append ic ts _ o

theorem wrapTags_der (io ic : Bool) : ∀ (tags : List Tag) (first : Bool) (sub b : Bytes),
    wrapTags io true ic first tags sub = .ok b → b = wrapL ic sub tags
  | [], _, sub, b, h => by
    simp only [wrapTags, Except.ok.injEq] at h
    exact h.symm
  | t :: ts, first, sub, b, h => by
    simp only [wrapTags, ite_self, encLen, Bool.not_true, Bool.false_and, Bool.false_eq_true,
      if_false] at h
    cases hl : encodeLength sub.length with
    | none => rw [hl] at h; simp at h
    | some l =>
      rw [hl] at h
      simp only [if_true, List.append_nil] at h
      have := wrapTags_der io ic ts false _ b h
      rw [this, wrapL, ident_eq, len_eq _ _ hl]

def X690.Body.content : Body → Bytes
  | .prim c => c
  | .cons c => c
  | .elem e => e.bytes

def X690.Body.isCons : Body → Bool
  | .prim _ => false
  | _ => true

theorem derElem_explicit (cls : TagClass) (num : Nat) (t : Ty) (v : Val) (e : Elem)
    (h : derElem t v = some e) : derElem (.tagged true cls num t) v = some (wrap cls true num e.bytes) := by
  rw [derElem, h]

theorem derBody_explicit (cls : TagClass) (num : Nat) (t : Ty) (v : Val) :
    derBody (.tagged true cls num t) v = (derElem t v).map fun e => Body.cons e.bytes := by
  rw [derBody]

theorem derBody_implicit (cls : TagClass) (num : Nat) (t : Ty) (v : Val) :
    derBody (.tagged false cls num t) v = derBody t v := by
  rw [derBody]

theorem derElem_implicit (cls : TagClass) (num : Nat) (t : Ty) (v : Val) (B : Body)
    (h : derBody t v = some B) :
    derElem (.tagged false cls num t) v = some (wrap cls B.isCons num B.content) := by
  rw [derElem, h]
  cases B <;> rfl

def untagged : Ty → Bool
  | .tagged _ _ _ _ => false
  | _ => true

theorem untagged_base (t : Ty) (h : untagged t = true) : t.base = t := by
  cases t with
  | tagged _ _ _ _ => cases h
  | _ => rfl

/-- the form of the contents is determined by the untagged type -/
def kindOk : Ty → Body → Prop
  | .prim _, .prim _ => True
  | .seq _, .cons _ => True
  | .set _, .cons _ => True
  | .seqOf _, .cons _ => True
  | .setOf _, .cons _ => True
  | .choice _, .elem _ => True
  | .any, .elem _ => True
  | _, _ => False

theorem derBody_kind (t : Ty) (v : Val) (B : Body) (hu : untagged t = true)
    (h : derBody t v = some B) : kindOk t B := by
  -- the equations of `derBody`, in the order of its definition
  unfold derBody at h
  split at h
  case h_1 | h_2 => cases hu
  -- BOOLEAN, INTEGER, ENUMERATED, NULL, BIT STRING, the character strings: a constant form
  case h_3 | h_4 | h_5 | h_6 | h_9 | h_10 => cases h; trivial
  -- OBJECT IDENTIFIER, REAL, SEQUENCE, SET, SEQUENCE OF, SET OF, CHOICE: a form mapped over an `Option`
  case h_7 | h_8 | h_11 | h_12 | h_13 | h_14 | h_15 =>
    obtain ⟨_, _, rfl⟩ := Option.map_eq_some_iff.mp h
    trivial
  -- ANY: an element or nothing, by the tag octets
  case h_16 => split at h <;> cases h; trivial
  case h_17 => cases h

theorem tags_nil_untagged (t : Ty) (h : t.tags = []) : untagged t = true := by
  cases t with
  | tagged e c n t => exact absurd h (tagged_tags_ne e c n t)
  | _ => rfl

/-- a type without a tag of its own (an untagged CHOICE, or ANY): its contents are the element of the alternative itself -/
theorem elem_of_tags_nil (t : Ty) (v : Val) (B : Body) (ht : t.tags = []) (hB : derBody t.base v = some B) :
    ∃ e, B = .elem e ∧ derBody t v = some (.elem e) ∧ derElem t v = some e := by
  have hu := tags_nil_untagged t ht
  rw [untagged_base t hu] at hB
  have hk := derBody_kind t v B hu hB
  cases t with
  | tagged _ _ _ _ => cases hu
  | prim _ | seq _ | set _ | seqOf _ | setOf _ => cases ht
  | choice _ | any =>
    cases B with
    | prim _ | cons _ => exact hk.elim
    | elem e => exact ⟨e, rfl, hB, by unfold derElem; simp only [hB]⟩

theorem singleton_eq_snoc {α} {x o : α} {ts : List α} (h : [x] = ts ++ [o]) : ts = [] ∧ x = o := by
  cases ts with
  | nil => cases h; exact ⟨rfl, rfl⟩
  | cons a as => cases as <;> cases h

/-- an untagged type has at most its own tag: one header around the contents -/
theorem bridge_base (t : Ty) (v : Val) (B : Body) (hu : untagged t = true) (hB : derBody t.base v = some B)
    (ts : List Tag) (o : Tag) (ht : t.tags = ts ++ [o]) :
    derElem t v = some ⟨o.cls, o.num, wrapL B.isCons B.content (ts ++ [o])⟩ ∧
      (o.constructed || B.isCons) = (if ts = [] then B.isCons else true) ∧
      ∃ B', derBody t v = some B' ∧ B'.content = wrapL B.isCons B.content ts ∧
        B'.isCons = (if ts = [] then B.isCons else true) := by
  rw [untagged_base t hu] at hB
  have hk := derBody_kind t v B hu hB
  cases t with
  | tagged e c n t' => cases hu
  | choice fs => cases ts <;> cases ht
  | any => cases ts <;> cases ht
  | prim p =>
    obtain ⟨rfl, rfl⟩ := singleton_eq_snoc ht
    cases B with
    | prim _ => exact ⟨by unfold derElem; simp only [hB]; rfl, rfl, _, hB, rfl, rfl⟩
    | cons _ | elem _ => exact hk.elim
  | seq fs | set fs | seqOf t' | setOf t' =>
    obtain ⟨rfl, rfl⟩ := singleton_eq_snoc ht
    cases B with
    | cons _ => exact ⟨by unfold derElem; simp only [hB]; rfl, rfl, _, hB, rfl, rfl⟩
    | prim _ | elem _ => exact hk.elim

/-- **the recursion of `derElem` on the type, in tag-list form**: given the contents of the base
    type, the element is those contents under one definite header per tag of the type's tag list,
    and `derBody` (the element less its outermost header) is the same over all tags but the last -/
theorem der_bridge : ∀ (t : Ty) (v : Val) (B : Body), derBody t.base v = some B →
    ∀ (ts : List Tag) (o : Tag), t.tags = ts ++ [o] →
      derElem t v = some ⟨o.cls, o.num, wrapL B.isCons B.content (ts ++ [o])⟩ ∧
      (o.constructed || B.isCons) = (if ts = [] then B.isCons else true) ∧
      ∃ B', derBody t v = some B' ∧ B'.content = wrapL B.isCons B.content ts ∧
        B'.isCons = (if ts = [] then B.isCons else true)
  | .tagged true cls num t' => fun v B hB ts o ht => by
    rw [Ty.base] at hB
    rw [Ty.tags] at ht
    obtain ⟨rfl, ho⟩ := List.append_inj' ht rfl
    cases ho
    rcases nil_or_snoc t'.tags with hn | ⟨ts', o', hl⟩
    · -- explicit tag directly on an untagged CHOICE
      obtain ⟨e, rfl, _, he⟩ := elem_of_tags_nil t' v B hn hB
      rw [hn]
      exact ⟨by rw [derElem_explicit cls num t' v e he]; rfl, rfl, .cons e.bytes,
        by rw [derBody_explicit, he]; rfl, rfl, rfl⟩
    · obtain ⟨h1, _, _⟩ := der_bridge t' v B hB ts' o' hl
      have hne : t'.tags ≠ [] := by rw [hl]; exact List.append_ne_nil_of_right_ne_nil _ (List.cons_ne_nil _ _)
      refine ⟨?_, by rw [if_neg hne]; rfl, .cons (wrapL B.isCons B.content t'.tags), ?_, rfl,
        by rw [if_neg hne]; rfl⟩
      · rw [derElem_explicit cls num t' v _ h1, wrapL_append _ t'.tags, hl]; rfl
      · rw [derBody_explicit, h1, hl]; rfl
  | .tagged false cls num t' => fun v B hB ts o ht => by
    rw [Ty.base] at hB
    rw [Ty.tags] at ht
    rcases nil_or_snoc t'.tags with hn | ⟨ts', o', hl⟩
    · -- IMPLICIT on an untagged CHOICE acts as EXPLICIT
      rw [hn, tagImplicitly_nil] at ht
      obtain ⟨rfl, rfl⟩ := singleton_eq_snoc ht
      obtain ⟨e, rfl, hB', _⟩ := elem_of_tags_nil t' v B hn hB
      exact ⟨by rw [derElem_implicit cls num t' v _ hB']; rfl, rfl, .elem e,
        by rw [derBody_implicit]; exact hB', rfl, rfl⟩
    · rw [hl, tagImplicitly_concat] at ht
      obtain ⟨rfl, ho⟩ := List.append_inj' ht rfl
      cases ho
      obtain ⟨_, h2, B', h3, h4, h5⟩ := der_bridge t' v B hB ts' o' hl
      refine ⟨?_, h2, B', by rw [derBody_implicit]; exact h3, h4, h5⟩
      rw [derElem_implicit cls num t' v B' h3, wrapL_append, h5, ← h2, h4]
      rfl
  | .prim _ | .seq _ | .set _ | .seqOf _ | .setOf _ | .choice _ | .any => fun v B hB ts o ht =>
    bridge_base _ v B rfl hB ts o ht

/-- the outermost tag of the element is the last tag of the value's effective tag set -/
def KeyOk (t : Ty) (v : Val) (e : Elem) : Prop :=
  ∃ tg, (effTags t v).getLast? = some tg ∧ tg.cls = e.cls ∧ tg.num = e.num

theorem setKey_dynamic (t : Ty) (v : Val) (hna : isAnyBase t = false) : setKey .dynamic t v = effTags t v := by
  cases t with
  | choice fs => rfl
  | any => simp [isAnyBase] at hna
  | prim _ | seq _ | set _ | seqOf _ | setOf _ => rw [effTags_of_tags _ _ (by simp [Ty.tags])]; rfl
  | tagged e c n t' => rw [effTags_of_tags _ _ (tagged_tags_ne e c n t')]; rfl

/-- SET: the encoder's merge sort on the outermost-tag keys and X.690's canonical order of the
    elements give the same octets -/
theorem set_sort_eq (zs : List (TagSet × Elem))
    (hk : ∀ z ∈ zs, ∃ tg, z.1.getLast? = some tg ∧ tg.cls = z.2.cls ∧ tg.num = z.2.num) :
    ((((zs.map fun z => (z.1, z.2.bytes)).mergeSort
        (fun a b => tagSetLe (outerKey a.1) (outerKey b.1))).map (·.2)).flatten)
      = (sortBy (fun a b => rankLe (tagRank a.cls a.num) (tagRank b.cls b.num)) (zs.map (·.2))).flatMap (fun e : Elem => e.bytes) := by
  let leZ : TagSet × Elem → TagSet × Elem → Bool :=
    fun a b => rankLe (tagRank a.2.cls a.2.num) (tagRank b.2.cls b.2.num)
  have h1 : (zs.map fun z => (z.1, z.2.bytes)).mergeSort (fun a b => tagSetLe (outerKey a.1) (outerKey b.1))
      = (zs.mergeSort leZ).map (fun z => (z.1, z.2.bytes)) := by
    rw [List.map_mergeSort (r := leZ)]
    intro a ha b hb
    obtain ⟨ta, ha1, ha2, ha3⟩ := hk a ha
    obtain ⟨tb, hb1, hb2, hb3⟩ := hk b hb
    show leZ a b = tagSetLe (outerKey a.1) (outerKey b.1)
    simp only [outerKey, ha1, hb1, tagSetLe_single, ha2, ha3, hb2, hb3, leZ]
  have h2 : sortBy (fun a b => rankLe (tagRank a.cls a.num) (tagRank b.cls b.num)) (zs.map (·.2))
      = (zs.mergeSort leZ).map (·.2) := by
    rw [sortBy_eq_mergeSort (fun a b : Elem => rankLe (tagRank a.cls a.num) (tagRank b.cls b.num))
      (fun a b c => rankLe_trans _ _ _) (fun a b => rankLe_total _ _)]
    rw [List.map_mergeSort (r := leZ)]
    intro a _ b _; rfl
  rw [h1, h2, List.flatMap_def, List.map_map, List.map_map]
  rfl

theorem derFields_nil : derFields .nil [] = some [] := by rw [derFields]

theorem derFields_cons (k : FKind) (t : Ty) (rest : Fields) (v : Val) (vs : List Val) :
    derFields (.cons k t rest) (v :: vs) =
      if skipField k v then derFields rest vs
      else (derElem t v).bind fun e => (derFields rest vs).map (e :: ·) := by
  rw [derFields.eq_def]; dsimp only
  cases derElem t v <;> cases derFields rest vs <;> rfl

/-- the contents computed by the encoder are those `derBody` gives for the base type -/
def ContentX (t : Ty) (v : Val) (sub : Bytes) (ic : Bool) : Prop :=
  ∃ B, derBody t.base v = some B ∧ B.content = sub ∧ B.isCons = ic ∧ (∀ e, B = .elem e → KeyOk t.base v e)

/-- the encoding of one item is the X.690 element, and its outermost tag is the sort key's -/
def ItemX (t : Ty) (v : Val) (b : Bytes) : Prop :=
  ∃ e, derElem t v = some e ∧ e.bytes = b ∧ KeyOk t v e

theorem contentX_cons {t : Ty} {v : Val} {c : Bytes} (h : derBody t.base v = some (.cons c)) :
    ContentX t v c true :=
  ⟨_, h, rfl, rfl, fun _ he => nomatch he⟩

theorem item_x (cfg : EncCfg) (f : Bool) (t : Ty) (v : Val) (sub : Bytes) (ic : Bool) (b : Bytes)
    (hne : f = true → ic = true → sub.isEmpty = false)
    (hc : ContentX t v sub ic)
    (h : finishItem cfg (mkO true 0 f) t (.ok (sub, ic)) = .ok b) : ItemX t v b := by
  obtain ⟨B, hB, hcont, hcons, hkey⟩ := hc
  simp only [finishItem] at h
  rcases nil_or_snoc t.tags with hn | ⟨ts, o, hl⟩
  · rw [hn] at h
    simp only [List.isEmpty_nil, if_true, Except.ok.injEq] at h
    subst h
    obtain ⟨e, rfl, _, he⟩ := elem_of_tags_nil t v B hn hB
    exact ⟨e, he, hcont, untagged_base t (tags_nil_untagged t hn) ▸ hkey e rfl⟩
  · have hnn : t.tags ≠ [] := by rw [hl]; simp
    rw [List.isEmpty_eq_false_iff.mpr hnn] at h
    simp only [Bool.false_eq_true, if_false] at h
    have homit : (sub.isEmpty && ic && f) = false := by
      cases ic with
      | false => simp
      | true =>
        cases f with
        | false => simp
        | true => rw [hne rfl rfl]; rfl
    rw [homit] at h
    simp only [Bool.false_eq_true, if_false] at h
    have hb := wrapTags_der _ ic t.tags true sub b h
    obtain ⟨h1, _, _⟩ := der_bridge t v B hB ts o hl
    refine ⟨_, h1, ?_, o, ?_, rfl, rfl⟩
    · rw [hb, hcont, hcons, hl]
    · rw [effTags_of_tags t v hnn, hl]; simp

/-- a SEQUENCE's contents are the encodings the SET encoder collects for the same members, in declaration
    order: where empty OPTIONAL members are left out, both encode a member with `ifNotEmpty` set from its
    own kind, whatever the caller's flag -/
theorem encFields_eq_setMembers (cfg : EncCfg) (hom : cfg.seqOmitEmpty = true) (ord : SetOrder) (dm : Bool)
    (mc : Nat) : ∀ (fs : Fields) (vs : List Val) (f f' : Bool),
    encFields cfg (mkO dm mc f) fs vs =
      (encSetMembers cfg (mkO dm mc f') ord fs vs).map fun ms => (ms.map (·.2)).flatten
  | .nil, [], _, _ => rfl
  | .nil, _ :: _, _, _ => rfl
  | .cons _ _ _, [], _, _ => rfl
  | .cons kd t rest, v :: vs, f, f' => by
    rw [encFields, encSetMembers, hom, if_pos rfl]
    cases skipField kd v
    · rw [if_neg Bool.false_ne_true, if_neg Bool.false_ne_true]
      dsimp only
      rw [encFields_eq_setMembers cfg hom ord dm mc rest vs kd.isOpt f']
      cases finishItem cfg (mkO dm mc kd.isOpt) t (encValue cfg (mkO dm mc kd.isOpt) t v) with
      | error e => rfl
      | ok b => cases encSetMembers cfg (mkO dm mc f') ord rest vs <;> rfl
    · rw [if_pos rfl, if_pos rfl]
      exact encFields_eq_setMembers cfg hom ord dm mc rest vs f f'

/-- hence what holds of the members the SET encoder collects gives the contents of the SEQUENCE -/
theorem fields_x (cfg : EncCfg) (hom : cfg.seqOmitEmpty = true) {fs : Fields} {vs : List Val} {b : Bytes} {f : Bool}
    (h : encFields cfg (mkO true 0 f) fs vs = .ok b)
    (hset : ∀ ms, encSetMembers cfg (mkO true 0 f) .dynamic fs vs = .ok ms →
      ∃ zs : List (TagSet × Elem), ms = zs.map (fun z => (z.1, z.2.bytes)) ∧
        derFields fs vs = some (zs.map (·.2)) ∧
        ∀ z ∈ zs, ∃ tg, z.1.getLast? = some tg ∧ tg.cls = z.2.cls ∧ tg.num = z.2.num) :
    ∃ es, derFields fs vs = some es ∧ es.flatMap (fun e : Elem => e.bytes) = b := by
  rw [encFields_eq_setMembers cfg hom .dynamic true 0 fs vs f f] at h
  obtain ⟨ms, hms, rfl⟩ := Res.map_eq_ok.mp h
  obtain ⟨zs, rfl, h2, _⟩ := hset ms hms
  exact ⟨_, h2, by rw [List.flatMap_def, List.map_map, List.map_map]; rfl⟩

/-- what makes an encoder configuration the DER one -/
structure DerCfg (cfg : EncCfg) : Prop where
  boolT : cfg.boolTrue = 255
  sortOf : cfg.sortSetOf = true
  setOrd : cfg.setOrder = .dynamic
  omitE : cfg.seqOmitEmpty = true

section
variable (cfg : EncCfg) (hD : DerCfg cfg)
include hD

theorem der_encRegion : EncRegion cfg derProfile 0 :=
  { boolT := by simp [derProfile, hD.boolT], chunk := Or.inl rfl, setOmit := Or.inr hD.omitE }

/-- a present member is never left out in the region (finding E3 excluded) -/
theorem sub_nonempty (t : Ty) (v : Val) (sub : Bytes) (ic f : Bool)
    (hreg : t.reg true cfg true = true) (hwf : t.WF = true) (hty : HasType t v = true)
    (hn : noE3 cfg.seqOmitEmpty t v = true) (hE : f = true → emptyC cfg.seqOmitEmpty t v = false)
    (he : encValue cfg (mkO true 0 f) t v = .ok (sub, ic)) :
    f = true → ic = true → sub.isEmpty = false := by
  intro hf hic
  subst hic
  exact contentS_nonempty (rt_contentS cfg derProfile true 0 (der_encRegion cfg hD) t v sub true f
    (fun _ => hD.omitE) hreg hwf hty hn hE he) (hE hf)

theorem member_x (t : Ty) (v : Val) (f : Bool) (b : Bytes)
    (hreg : t.reg true cfg true = true) (hwf : t.WF = true) (hty : HasType t v = true)
    (hn : noE3 cfg.seqOmitEmpty t v = true) (hE : f = true → emptyC cfg.seqOmitEmpty t v = false)
    (hcx : ∀ sub ic, encValue cfg (mkO true 0 f) t v = .ok (sub, ic) → ContentX t v sub ic)
    (h : finishItem cfg (mkO true 0 f) t (encValue cfg (mkO true 0 f) t v) = .ok b) : ItemX t v b := by
  obtain ⟨sub, ic, he⟩ := finish_ok h
  rw [he] at h
  exact item_x cfg f t v sub ic b (sub_nonempty cfg hD t v sub ic f hreg hwf hty hn hE he) (hcx sub ic he) h

theorem prim_content (p : PrimTy) (v : Val) (sub : Bytes) (ic f : Bool) (ht : HasType (.prim p) v = true)
    (h : encValue cfg (mkO true 0 f) (.prim p) v = .ok (sub, ic)) :
    derBody (.prim p) v = some (.prim sub) ∧ ic = false := by
  cases p with
  | boolean =>
    obtain ⟨b, rfl⟩ := hasType_bool ht
    cases h
    rw [hD.boolT, derBody]; cases b <;> exact ⟨rfl, rfl⟩
  | integer =>
    obtain ⟨z, rfl⟩ := hasType_int ht
    cases h
    rw [derBody, intOctets_eq]; exact ⟨rfl, rfl⟩
  | enumerated =>
    obtain ⟨z, rfl⟩ := hasType_enum ht
    cases h
    rw [derBody, intOctets_eq]; exact ⟨rfl, rfl⟩
  | bitString =>
    obtain ⟨bs, rfl⟩ := hasType_bits ht
    cases h
    rw [derBody, bitOctets_eq]; exact ⟨rfl, rfl⟩
  | null =>
    cases hasType_null ht
    cases h
    rw [derBody]; exact ⟨rfl, rfl⟩
  | str k =>
    obtain ⟨bs, rfl⟩ := hasType_str ht
    cases h
    rw [derBody]; exact ⟨rfl, rfl⟩
  | oid =>
    obtain ⟨arcs, rfl⟩ := hasType_oid ht
    obtain ⟨hc, rfl⟩ := encValue_oid_ok h
    rw [derBody, oidOctets_eq, hc]; exact ⟨rfl, rfl⟩
  | real =>
    obtain ⟨r, rfl⟩ := hasType_real ht
    obtain ⟨hc, rfl⟩ := encValue_real_ok h
    rw [derBody, realOctets_eq_realContent, hc]; exact ⟨rfl, rfl⟩

theorem elems_content (t : Ty) (hr : t.reg true cfg true = true) (hw : t.WF = true)
    (ih : ∀ v sub ic, HasType t v = true → noE3 cfg.seqOmitEmpty t v = true →
      encValue cfg (mkO true 0 false) t v = .ok (sub, ic) → ContentX t v sub ic) :
    ∀ (vs : List Val) (bs : List Bytes), vs.all (fun v => HasType t v) = true →
      vs.all (fun v => noE3 cfg.seqOmitEmpty t v) = true →
      allOk (vs.map fun v => finishItem cfg (mkO true 0 false) t (encValue cfg (mkO true 0 false) t v)) = .ok bs →
      ∃ es, derElems t vs = some es ∧ es.map (fun e : Elem => e.bytes) = bs
  | [], bs, _, _, h => by
    cases h
    exact ⟨[], by simp [derElems], rfl⟩
  | v :: vs, bs, ht, hn, h => by
    rw [List.all_cons, Bool.and_eq_true] at ht hn
    obtain ⟨b, bs', hv, hrest, rfl⟩ := allOk_cons h
    obtain ⟨e, he, hb, _⟩ := member_x cfg hD t v false b hr hw ht.1 hn.1 nofun
      (fun sub ic => ih v sub ic ht.1 hn.1) hv
    obtain ⟨es, hes, hm⟩ := elems_content t hr hw ih vs bs' ht.2 hn.2 hrest
    exact ⟨e :: es, by simp [derElems, he, hes], by simp [hb, hm]⟩

mutual
theorem x_content : ∀ (t : Ty) (v : Val) (sub : Bytes) (ic : Bool) (f : Bool),
    t.reg true cfg true = true → t.WF = true → HasType t v = true → noE3 cfg.seqOmitEmpty t v = true →
    (f = true → emptyC cfg.seqOmitEmpty t v = false) →
    encValue cfg (mkO true 0 f) t v = .ok (sub, ic) → ContentX t v sub ic
  | .tagged _ _ _ t => fun v sub ic f hr hw ht hn hE h =>
      x_content t v sub ic f (reg_tagged hr) (wf_tagged hw) ht hn hE h
  | .prim p => fun v sub ic f _ _ ht _ _ h => by
      obtain ⟨h1, rfl⟩ := prim_content cfg hD p v sub ic f ht h
      exact ⟨_, h1, rfl, rfl, fun _ he => nomatch he⟩
  | .any => fun _ _ _ _ hr _ _ _ _ _ => by cases hr
  | .seq fs => fun v sub ic f hr hw ht hn hE h => by
      obtain ⟨vs, rfl, _⟩ := hasType_seq ht
      obtain ⟨hb, rfl⟩ := encValue_seq_ok h
      rw [Ty.WF, Bool.and_eq_true] at hw
      obtain ⟨es, h1, rfl⟩ := fields_x cfg hD.omitE hb fun ms => x_set fs vs ms f hr hw.1 ht hn
      have : derBody (.seq fs) (.seq vs) = some (.cons (es.flatMap (·.bytes))) := by rw [derBody, h1]; rfl
      exact contentX_cons this
  | .set fs => fun v sub ic f hr hw ht hn hE h => by
      obtain ⟨vs, rfl, _⟩ := hasType_set ht
      obtain ⟨hb, rfl⟩ := encValue_set_ok h
      rw [hD.setOrd, if_neg nofun] at hb
      obtain ⟨ms, hb, rfl⟩ := hb
      rw [Ty.WF, Bool.and_eq_true] at hw
      obtain ⟨zs, rfl, h2, h3⟩ := x_set fs vs _ f hr hw.1 ht hn hb
      have := congrArg (Option.map fun es => Body.cons ((sortBy (fun a b => rankLe (tagRank a.cls a.num)
        (tagRank b.cls b.num)) es).flatMap (·.bytes))) h2
      rw [← derBody] at this
      exact set_sort_eq zs h3 ▸ contentX_cons this
  | .seqOf t => fun v sub ic f hr hw ht hn hE h => by
      obtain ⟨vs, rfl, _⟩ := hasType_seqOf ht
      obtain ⟨bs, hb, rfl, rfl⟩ := encValue_seqOf_ok h
      obtain ⟨es, h1, rfl⟩ := elems_content cfg hD t hr hw
        (fun v sub ic hv hnv => x_content t v sub ic false hr hw hv hnv nofun) vs _ ht hn hb
      have : derBody (.seqOf t) (.seqOf vs) = some (.cons (es.flatMap (·.bytes))) := by
        rw [derBody, h1]; rfl
      exact List.flatMap_def .. ▸ contentX_cons this
  | .setOf t => fun v sub ic f hr hw ht hn hE h => by
      obtain ⟨vs, rfl, _⟩ := hasType_setOf ht
      obtain ⟨bs, hb, rfl, rfl⟩ := encValue_setOf_ok h
      obtain ⟨es, h1, rfl⟩ := elems_content cfg hD t hr hw
        (fun v sub ic hv hnv => x_content t v sub ic false hr hw hv hnv nofun) vs _ ht hn hb
      rw [hD.sortOf, if_pos rfl, ← sortSetOf_eq]
      have : derBody (.setOf t) (.seqOf vs) = some (.cons (sortBy paddedLe (es.map (·.bytes))).flatten) := by
        rw [derBody, h1]; rfl
      exact contentX_cons this
  | .choice fs => fun v sub ic f hr hw ht hn hE h => by
      obtain ⟨i, w, rfl, _⟩ := hasType_choice ht
      obtain ⟨hb, rfl⟩ := encValue_choice_ok h
      rw [Ty.WF, Bool.and_eq_true, Bool.and_eq_true] at hw
      obtain ⟨e, h1, rfl, k, ti, h3, tg, hk1, hk2⟩ := x_alt fs i w _ f hr hw.1.1 ht hn hE hb
      refine ⟨.elem e, (by rw [derBody, h1]; rfl : derBody (.choice fs) _ = _), rfl, rfl, fun e' he' => ?_⟩
      cases he'
      refine ⟨tg, ?_, hk2⟩
      dsimp only [effTags, Ty.tags, Ty.base, List.isEmpty_nil]
      rw [h3]; exact hk1
theorem x_set : ∀ (fs : Fields) (vs : List Val) (ms : List (TagSet × Bytes)) (f : Bool),
    Fields.reg true cfg true fs = true → Fields.WF fs = true → HasFields fs vs = true →
    noE3F cfg.seqOmitEmpty fs vs = true →
    encSetMembers cfg (mkO true 0 f) .dynamic fs vs = .ok ms →
    ∃ zs : List (TagSet × Elem), ms = zs.map (fun z => (z.1, z.2.bytes)) ∧
      derFields fs vs = some (zs.map (·.2)) ∧
      ∀ z ∈ zs, ∃ tg, z.1.getLast? = some tg ∧ tg.cls = z.2.cls ∧ tg.num = z.2.num
  | .nil, [] => fun ms f _ _ _ _ h => by
      cases h
      exact ⟨[], rfl, derFields_nil, nofun⟩
  | .nil, _ :: _ => fun _ _ _ _ hf _ _ => by cases hf
  | .cons _ _ _, [] => fun _ _ _ _ hf _ _ => by simp [HasFields] at hf
  | .cons kd t rest, v :: vs => fun ms f hr hw hf hn h => by
      obtain ⟨⟨hr2, hw2, hfr, hn2⟩, hm⟩ := member_hyps hr hw hf hn
      rw [derFields_cons]
      rcases encSetMembers_cons_ok.mp h with ⟨hs, h⟩ | ⟨hs, b1, ms2, hb1, hb2, rfl⟩
      · rw [hs, if_pos rfl]
        exact x_set rest vs ms f hr2 hw2 hfr hn2 h
      · obtain ⟨hr1, hw1, hty, hn1, hne⟩ := hm hs
        have hE' := hne hD.omitE
        rw [hs, if_neg Bool.false_ne_true]
        obtain ⟨e, he1, rfl, hk⟩ := member_x cfg hD t v kd.isOpt _ hr1 hw1 hty hn1 hE'
          (fun sub ic => x_content t v sub ic kd.isOpt hr1 hw1 hty hn1 hE') hb1
        obtain ⟨zs, rfl, h2, h3⟩ := x_set rest vs _ f hr2 hw2 hfr hn2 hb2
        refine ⟨(setKey .dynamic t v, e) :: zs, rfl, by rw [he1, h2]; rfl, fun z hz => ?_⟩
        rcases List.mem_cons.mp hz with rfl | hz
        · rw [setKey_dynamic t v (reg_not_any true cfg true t hr1)]
          exact hk
        · exact h3 z hz
theorem x_alt : ∀ (fs : Fields) (i : Nat) (v : Val) (b : Bytes) (f : Bool),
    Fields.reg true cfg true fs = true → Fields.WF fs = true → HasAlt fs i v = true →
    noE3Alt cfg.seqOmitEmpty fs i v = true → (f = true → emptyAlt cfg.seqOmitEmpty fs i v = false) →
    encAlt cfg (mkO true 0 f) fs i v = .ok b →
    ∃ e, derAlt fs i v = some e ∧ e.bytes = b ∧ ∃ k ti, fs.get? i = some (k, ti) ∧ KeyOk ti v e
  | .nil, _ => fun _ _ _ _ _ ha _ _ _ => by cases ha
  | .cons kd t rest, 0 => fun v b f hr hw ha hn hE h => by
      rw [Fields.reg, Bool.and_eq_true] at hr
      have hw' := (Fields.WF_cons hw).1
      obtain ⟨e, he1, he2, hk⟩ := member_x cfg hD t v f b hr.1 hw' ha hn hE
        (fun sub ic => x_content t v sub ic f hr.1 hw' ha hn hE) h
      exact ⟨e, by rw [derAlt]; exact he1, he2, kd, t, rfl, hk⟩
  | .cons kd t rest, i + 1 => fun v b f hr hw ha hn hE h => by
      rw [Fields.reg, Bool.and_eq_true] at hr
      rw [derAlt, Fields.get?]
      exact x_alt rest i v b f hr.2 (Fields.WF_cons hw).2.1 ha hn hE h
end

theorem x_fields : ∀ (fs : Fields) (vs : List Val) (b : Bytes) (f : Bool),
    Fields.reg true cfg true fs = true → Fields.WF fs = true → HasFields fs vs = true →
    noE3F cfg.seqOmitEmpty fs vs = true →
    encFields cfg (mkO true 0 f) fs vs = .ok b →
    ∃ es, derFields fs vs = some es ∧ es.flatMap (fun e : Elem => e.bytes) = b :=
  fun fs vs _ f hr hw hf hn h => fields_x cfg hD.omitE h fun ms => x_set cfg hD fs vs ms f hr hw hf hn

/-- **the DER encoder writes the distinguished encoding X.690 defines.**  For every type of the
    region (no ANY; REAL in base 2) and every value of it to which finding E3 does not apply,
    whatever `encode` returns under a DER configuration is `X690.der` of the value — the encoding
    computed by the independent transcription of X.690 §8, §10 and §11: minimal definite lengths,
    minimal two's complement, FF for TRUE, DEFAULT-valued members left out, SET members in tag
    order, SET OF elements in the order of their zero-padded encodings. -/
theorem der_is_x690 (o : EncOpts) (hdm : cfg.fixedDefMode = some true) (hch : cfg.fixedChunk = some 0)
    (hi : o.ifNotEmpty = false) (t : Ty) (v : Val) (b : Bytes)
    (hreg : t.reg true cfg true = true) (hwf : t.WF = true) (hty : HasType t v = true)
    (hn : noE3 cfg.seqOmitEmpty t v = true) (h : encItem cfg o t v = .ok b) :
    X690.der t v = some b := by
  have ho : normOpts cfg o = mkO true 0 false := by
    simp [normOpts, hdm, hch, hi, mkO]
  unfold encItem at h
  simp only [ho] at h
  obtain ⟨e, he1, he2, _⟩ := member_x cfg hD t v false b hreg hwf hty hn (by simp)
    (fun sub ic he => x_content cfg hD t v sub ic false hreg hwf hty hn (by simp) he) h
  simp [X690.der, he1, he2]

end

end Asn1
