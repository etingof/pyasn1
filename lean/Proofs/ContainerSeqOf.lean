/-
  Proofs.ContainerSeqOf — SEQUENCE OF / SET OF objects refine the plain list prototype:
  on the canonical representation `ListSpec.rep typed s` of a prototype state every allowed operation
  of the object model does exactly what the prototype does (`step_rep`).  On the prototype itself:
  ill-formed operations raise and change nothing, readers change nothing.
-/
import Asn1.Container
import Proofs.ContainerDict

namespace Asn1.Container
open ListSpec

variable {typed : Bool}

theorem rep_getD (s : St) :
    (rep typed s).comps.getD [] = enumFrom 0 ((s.getD []).map (comp typed)) := by
  cases s <;> rfl

theorem len_rep (s : St) : SeqOf.len (rep typed s) = size s := by
  cases s with
  | none => rfl
  | some l => exact (dlen_enumFrom0 _).trans (List.length_map _)

theorem normIdx_rep (s : St) (i : Int) : SeqOf.normIdx (rep typed s) i = norm s i := by
  rw [SeqOf.normIdx, len_rep]; rfl

theorem norm_nat (s : St) (k : Nat) : norm s (k : Int) = some k := by simp [norm]

theorem appendPos_rep (s : St) : SeqOf.appendPos (rep typed s) = size s := by
  cases s with
  | none => rfl
  | some l => exact (enumFrom_length _ _).trans (List.length_map _)

theorem lookup_rep (s : St) (j : Nat) :
    (rep typed s).comps.bind (fun d => dget d j) = ((s.getD [])[j]?).map (comp typed) := by
  cases s with
  | none => rfl
  | some l => exact (dget_enumFrom0 _ _).trans List.getElem?_map

theorem inv_iff (s : St) : Inv typed s ↔ (typed = false → ∀ x ∈ s.getD [], x ≠ none) := by
  cases s with
  | none => exact ⟨fun _ _ x hx => absurd hx List.not_mem_nil, fun _ _ l hl => nomatch hl⟩
  | some l => exact ⟨fun h ht => h ht l rfl, fun h ht _ hl => Option.some.inj hl ▸ h ht⟩

theorem inv_none : Inv typed none := fun _ _ h => nomatch h

theorem inv_nil : Inv typed (some []) := fun _ _ h _ hx => by cases h; cases hx

theorem inv_get {s : St} (hinv : Inv typed s) (ht : typed = false) {j : Nat} {x : Option Int}
    (h : (s.getD [])[j]? = some x) : x ≠ none :=
  (inv_iff s).mp hinv ht x (List.mem_of_getElem? h)

theorem comp_isHole_of_inv (x : Option Int) (h : typed = false → x ≠ none) :
    (comp typed x).isHole = false := by
  cases x with
  | some z => rfl
  | none =>
    cases typed with
    | true => rfl
    | false => exact absurd rfl (h rfl)

theorem coerce_rep (s : St) (hinv : Inv typed s) (j : Nat) (a : Option Arg)
    (hal : if a.isNone && !typed then size s ≤ j else j ≤ size s) :
    SeqOf.coerce typed ((((s.getD [])[j]?).map (comp typed)).getD .hole) a
      = (value typed (s.getD [])[j]? a).map (comp typed) := by
  cases a with
  | none =>
    cases typed with
    | true => rfl
    | false =>
      -- no component type: `setComponentByPosition(j)` is allowed only beyond the end, where it raises
      rw [List.getElem?_eq_none (show (s.getD []).length ≤ j from hal)]; rfl
  | some a =>
    cases a with
    | py z =>
      cases typed with
      | true => rfl
      | false =>
        cases hx : (s.getD [])[j]? with
        | none => rfl
        | some x =>
          cases x with
          | none => exact absurd rfl (inv_get hinv rfl hx)
          | some y => rfl
    | obj z | bad => rfl

theorem setAt_rep (s : St) (i : Int) (a : Option Arg) (hinv : Inv typed s)
    (hal : ∀ j, norm s i = some j → if a.isNone && !typed then size s ≤ j else j ≤ size s) :
    SeqOf.setAt typed (rep typed s) i a = (ListSpec.setAt typed s i a).map (rep typed) := by
  unfold SeqOf.setAt ListSpec.setAt
  rw [normIdx_rep]
  cases hn : norm s i with
  | none => rfl
  | some j =>
    have hal := hal j hn
    simp only [rep_getD, dget_enumFrom0, List.getElem?_map, coerce_rep s hinv j a hal]
    cases hv : value typed (s.getD [])[j]? a with
    | none => rfl
    | some v =>
      have hle : j ≤ ((s.getD []).map (comp typed)).length := by
        rw [List.length_map]
        cases a with
        | none =>
          cases typed with
          | true => exact hal
          | false => cases hv
        | some _ => exact hal
      simp only [Option.map_some, dset_enumFrom0 j _ _ hle, rep, List.length_map]
      split
      · rw [List.map_set]
      · rw [List.map_append]; rfl

theorem setAt_some {s s' : St} {i : Int} {a : Option Arg} (h : ListSpec.setAt typed s i a = some s') :
    ∃ j v, norm s i = some j ∧ value typed (s.getD [])[j]? a = some v ∧
      s' = some (if j < (s.getD []).length then (s.getD []).set j v else s.getD [] ++ [v]) := by
  unfold ListSpec.setAt at h
  cases hn : norm s i with
  | none => rw [hn] at h; cases h
  | some j =>
    rw [hn] at h
    cases hv : value typed (s.getD [])[j]? a with
    | none => simp only [hv] at h; cases h
    | some v => simp only [hv, Option.some.injEq] at h; exact ⟨j, v, rfl, hv, h.symm⟩

/-- what a successful assignment stores is a set element when there is no component type -/
theorem inv_setAt {s s' : St} {i : Int} {a : Option Arg} (hinv : Inv typed s)
    (h : ListSpec.setAt typed s i a = some s') : Inv typed s' := by
  obtain ⟨j, v, -, hv, rfl⟩ := setAt_some h
  rw [inv_iff] at hinv ⊢
  intro ht x hx
  have hvne : v ≠ none := by
    subst ht
    cases a with
    | none => cases hv
    | some a =>
      cases a with
      | py z => simp only [value, Bool.false_or] at hv; split at hv <;> cases hv; nofun
      | obj z => cases hv; nofun
      | bad => cases hv
  rw [Option.getD_some] at hx
  split at hx
  · rcases List.mem_or_eq_of_mem_set hx with h1 | h1
    · exact hinv ht x h1
    · exact h1 ▸ hvne
  · rcases List.mem_append.mp hx with h1 | h1
    · exact hinv ht x h1
    · exact List.mem_singleton.mp h1 ▸ hvne

theorem getAt_rep_some (s : St) {k : Nat} {x : Option Int} (hx : (s.getD [])[k]? = some x) :
    SeqOf.getAt typed (rep typed s) (k : Int) true = (rep typed s, .comp (comp typed x)) := by
  rw [SeqOf.getAt, normIdx_rep, norm_nat]
  simp only [lookup_rep, hx, Option.map_some]

/-- reading a position: an element, nothing, or the documented append of an unset element, its
    only state change, which needs a component type -/
theorem getAt_rep {s : St} (hinv : Inv typed s) (i : Int) (inst : Bool)
    (hal : ∀ j, norm s i = some j → (!typed || !inst || j ≤ size s) = true) :
    Sim (rep typed) (Inv typed) (ListSpec.getAt typed s i inst) (SeqOf.getAt typed (rep typed s) i inst) := by
  unfold SeqOf.getAt ListSpec.getAt
  rw [normIdx_rep]
  cases hn : norm s i with
  | none => exact Sim.same hinv _
  | some j =>
    have hal := hal j hn
    simp only [lookup_rep]
    cases hx : (s.getD [])[j]? with
    | some x => exact Sim.same hinv _
    | none =>
      cases inst with
      | false => exact Sim.same hinv _
      | true =>
        have hge : (s.getD []).length ≤ j := List.getElem?_eq_none_iff.mp hx
        have hset := setAt_rep s (j : Int) none hinv fun j' hj' => by
          cases (norm_nat s j).symm.trans hj'
          cases typed
          · exact hge
          · exact of_decide_eq_true hal
        simp only [Option.map_none, Bool.not_true, Bool.false_eq_true, if_false, hset, ListSpec.setAt, norm_nat,
          value]
        cases typed with
        | false => exact Sim.same hinv _     -- no component type: nothing to instantiate
        | true =>
          have hje : j = (s.getD []).length :=
            Nat.le_antisymm (of_decide_eq_true hal) hge
          subst hje
          simp only [if_true, Option.map_some, Nat.lt_irrefl, if_false, Bool.true_and, beq_self_eq_true,
            lookup_rep (typed := true) (some _), Option.getD_some,
            List.getElem?_append_right (Nat.le_refl _), Nat.sub_self, List.getElem?_cons_zero]
          exact ⟨rfl, rfl, nofun⟩

theorem getMany_rep (s : St) (ks : List Nat) (hks : ∀ k ∈ ks, k < size s) :
    SeqOf.getMany typed (rep typed s) ks =
      (rep typed s, some ((ks.filterMap fun k => (s.getD [])[k]?).map (comp typed))) := by
  induction ks with
  | nil => rfl
  | cons k ks ih =>
    have hx := List.getElem?_eq_getElem (hks k List.mem_cons_self)
    dsimp only [SeqOf.getMany]
    rw [getAt_rep_some s hx]
    simp only [ih fun k' h' => hks k' (List.mem_cons_of_mem _ h'), List.filterMap_cons, hx, List.map_cons]

theorem iter_rep (s : St) :
    SeqOf.getMany typed (rep typed s) (List.range (SeqOf.len (rep typed s))) =
      (rep typed s, some ((s.getD []).map (comp typed))) := by
  rw [len_rep, getMany_rep s _ (fun _ => List.mem_range.mp), size, filterMap_range_get]

theorem size_setAt {s s' : St} {k : Nat} {a : Option Arg} (hle : k ≤ size s)
    (h : ListSpec.setAt typed s (k : Int) a = some s') : k + 1 ≤ size s' := by
  obtain ⟨j, v, hn, -, rfl⟩ := setAt_some h
  cases (norm_nat s k).symm.trans hn
  rw [size, Option.getD_some]
  split
  · rw [List.length_set]; assumption
  · rw [List.length_append]; exact Nat.add_le_add_right hle 1

theorem setAt_rep_nat (s : St) (k : Nat) (a : Arg) (hinv : Inv typed s) (hk : k ≤ size s) :
    SeqOf.setAt typed (rep typed s) (k : Int) (some a) =
      (ListSpec.setAt typed s (k : Int) (some a)).map (rep typed) :=
  setAt_rep s k (some a) hinv fun j hj => by cases (norm_nat s k).symm.trans hj; exact hk

theorem setMany_rep {s : St} (hinv : Inv typed s) (k : Nat) (as : List Arg) (hk : k ≤ size s) :
    Sim (rep typed) (Inv typed) (ListSpec.setMany typed s k as) (SeqOf.setMany typed (rep typed s) k as) := by
  induction as generalizing s k with
  | nil => exact Sim.same hinv true
  | cons a as ih =>
    dsimp only [SeqOf.setMany, ListSpec.setMany]
    rw [setAt_rep_nat s k a hinv hk]
    cases h : ListSpec.setAt typed s (k : Int) (some a) with
    | none => exact Sim.same hinv false
    | some s' => exact ih (inv_setAt hinv h) (k + 1) (size_setAt hk h)

theorem appendMany_rep {s : St} (hinv : Inv typed s) (as : List Arg) :
    Sim (rep typed) (Inv typed) (ListSpec.appendMany typed s as) (SeqOf.appendMany typed (rep typed s) as) := by
  induction as generalizing s with
  | nil => exact Sim.same hinv true
  | cons a as ih =>
    dsimp only [SeqOf.appendMany, ListSpec.appendMany]
    rw [appendPos_rep, setAt_rep_nat s _ a hinv (Nat.le_refl _)]
    cases h : ListSpec.setAt typed s (size s : Int) (some a) with
    | none => exact Sim.same hinv false
    | some s' => exact ih (inv_setAt hinv h)

theorem allVals_map_comp (l : List (Option Int)) : SeqOf.allVals (l.map (comp typed)) = allSet l := by
  induction l with
  | nil => rfl
  | cons x l ih =>
    cases x with
    | some z => simp only [List.map_cons, comp, SeqOf.allVals, allSet, ih]
    | none => cases typed <;> rfl

theorem indexIn_map_comp (z : Int) (l : List (Option Int)) (k : Nat) :
    SeqOf.indexIn z (l.map (comp typed)) k = indexOf z l k := by
  induction l generalizing k with
  | nil => rfl
  | cons x l ih =>
    cases x with
    | some y => simp only [List.map_cons, comp, SeqOf.indexIn, indexOf, ih]
    | none => cases typed <;> rfl

theorem eqItems_map_comp (vs : List Int) (l : List (Option Int)) :
    SeqOf.eqItems vs (l.map (comp typed)) = ListSpec.eqItems vs l := by
  induction l generalizing vs with
  | nil => cases vs <;> rfl
  | cons x l ih =>
    cases vs with
    | nil => rfl
    | cons v vs =>
      cases x with
      | some y => simp only [List.map_cons, comp, SeqOf.eqItems, ListSpec.eqItems, ih]
      | none => cases typed <;> rfl

theorem indexOf_lt {z : Int} {l : List (Option Int)} {k r : Nat} (h : indexOf z l k = some r) :
    k ≤ r ∧ r < k + l.length := by
  induction l generalizing k with
  | nil => cases h
  | cons x l ih =>
    cases x with
    | none => cases h
    | some y =>
      rw [indexOf] at h
      split at h
      · cases h; exact ⟨Nat.le_refl _, Nat.lt_add_of_pos_right (Nat.succ_pos _)⟩
      · have := ih h
        rw [List.length_cons]; omega

theorem containsFrom_rep (s : St) (z : Int) (ks : List Nat) (hks : ∀ k ∈ ks, k < size s) :
    SeqOf.containsFrom typed z (rep typed s) ks =
      (rep typed s, containsIn z (ks.filterMap fun k => (s.getD [])[k]?)) := by
  induction ks with
  | nil => rfl
  | cons k ks ih =>
    obtain ⟨x, hx⟩ : ∃ x, (s.getD [])[k]? = some x := ⟨_, List.getElem?_eq_getElem (hks k List.mem_cons_self)⟩
    have ih' := ih fun k' h' => hks k' (List.mem_cons_of_mem _ h')
    dsimp only [SeqOf.containsFrom]
    rw [getAt_rep_some s hx, List.filterMap_cons, hx]
    cases x with
    | some y =>
      simp only [comp, containsIn]
      split
      · rfl
      · exact ih'
    | none => cases typed <;> rfl

theorem encIter_rep (s : St) (ks : List Nat) (hks : ∀ k ∈ ks, k < size s) :
    SeqOf.encIter typed (rep typed s) ks = rep typed s := by
  induction ks with
  | nil => rfl
  | cons k ks ih =>
    obtain ⟨x, hx⟩ : ∃ x, (s.getD [])[k]? = some x := ⟨_, List.getElem?_eq_getElem (hks k List.mem_cons_self)⟩
    dsimp only [SeqOf.encIter]
    rw [getAt_rep_some s hx]
    cases x with
    | some y => exact ih fun k' h' => hks k' (List.mem_cons_of_mem _ h')
    | none => cases typed <;> rfl

theorem all_isVal_map_comp (l : List (Option Int)) :
    (l.map (comp typed)).all Comp.isVal = l.all (·.isSome) := by
  induction l with
  | nil => rfl
  | cons x l ih =>
    rw [List.map_cons, List.all_cons, List.all_cons, ih]
    cases x with
    | some z => rfl
    | none => cases typed <;> rfl

theorem isValue_rep (s : St) : SeqOf.isValue (rep typed s) = ListSpec.isValue s := by
  cases s with
  | none => rfl
  | some l =>
    simp only [rep, SeqOf.isValue, ListSpec.isValue, enumFrom_length, dlen_enumFrom0, beq_self_eq_true, Bool.true_and]
    rw [all_snd_enumFrom Comp.isVal, all_isVal_map_comp]

theorem sliceRange_lt (n : Nat) (a b : Option Int) : ∀ k ∈ sliceRange n a b, k < n := by
  intro k hk
  have he : clampIdx n n b ≤ n := by
    unfold clampIdx
    cases b with
    | none => exact Nat.le_refl _
    | some i =>
      simp only
      split
      · omega
      · exact Nat.min_le_right _ _
  have := List.mem_range'_1.mp hk
  omega

theorem filter_nonhole_enumFrom (l : List (Option Int)) (hl : typed = false → ∀ x ∈ l, x ≠ none) :
    (enumFrom 0 (l.map (comp typed))).filter (fun kv => !kv.2.isHole) = enumFrom 0 (l.map (comp typed)) := by
  refine filter_enumFrom_self (fun c : Comp => !c.isHole) 0 _ (List.forall_mem_map.mpr fun x hx => ?_)
  rw [comp_isHole_of_inv x fun ht => hl ht x hx]
  rfl

theorem list_reader (s : St) (op : SeqOfOp) (hr : isReader typed s op = true) :
    (ListSpec.step typed s op).1 = s := by
  have hget : ∀ i inst, (∀ j, norm s i = some j → j < size s) → (ListSpec.getAt typed s i inst).1 = s := by
    intro i inst hlt
    unfold ListSpec.getAt
    cases hn : norm s i with
    | none => rfl
    | some j => simp only [List.getElem?_eq_getElem (hlt j hn)]
  cases op with
  | getItem i =>
    exact hget i true fun j hj => by dsimp only [isReader] at hr; simp only [hj] at hr; exact of_decide_eq_true hr
  | getPos i inst =>
    cases inst with
    | false =>
      dsimp only [ListSpec.step]
      simp only [ListSpec.getAt]
      cases norm s i with
      | none => rfl
      | some j => simp only; cases (s.getD [])[j]? <;> rfl
    | true => exact hget i true fun j hj => by dsimp only [isReader] at hr; simp only [hj] at hr; exact of_decide_eq_true hr
  | count z =>
    dsimp only [ListSpec.step]
    cases s with
    | none => rfl
    | some l => simp only; cases allSet l <;> rfl
  | index z =>
    dsimp only [ListSpec.step]
    cases s with
    | none => rfl
    | some l => simp only; cases indexOf z l 0 <;> rfl
  | eqTo vs => dsimp only [ListSpec.step]; cases s <;> rfl
  | len | iter | contains _ | getSlice _ _ | pretty | encode => rfl
  | _ => cases hr

theorem setOut_rep {s : St} (hinv : Inv typed s) (i : Int) (a : Option Arg) (err : Out)
    (hal : ∀ j, norm s i = some j → if a.isNone && !typed then size s ≤ j else j ≤ size s) :
    Sim (rep typed) (Inv typed)
      (match ListSpec.setAt typed s i a with | some s' => (s', Out.unit) | none => (s, err))
      (match SeqOf.setAt typed (rep typed s) i a with
        | some st' => (st', Out.unit)
        | none => (rep typed s, err)) := by
  rw [setAt_rep s i a hinv hal]
  cases h : ListSpec.setAt typed s i a with
  | none => exact Sim.same hinv err
  | some s' => exact Sim.same (inv_setAt hinv h) Out.unit

/-- `append` assigns at the number of entries, which on a representation is the length -/
theorem append_rep {s : St} (hinv : Inv typed s) (a : Arg) :
    Sim (rep typed) (Inv typed) (ListSpec.step typed s (.append a)) (SeqOf.step typed (rep typed s) (.append a)) := by
  dsimp only [SeqOf.step, ListSpec.step]
  rw [appendPos_rep]
  exact setOut_rep hinv (size s : Int) (some a) .lookupErr fun j hj => by
    cases (norm_nat s (size s)).symm.trans hj; exact Nat.le_refl _

/-- `extend` appends one by one and keeps what went in before a refusal; when all went in, an
    object that had no components has an empty dict now, as the prototype has an empty list -/
theorem extend_rep {s : St} (hinv : Inv typed s) (as : List Arg) :
    Sim (rep typed) (Inv typed) (ListSpec.step typed s (.extend as)) (SeqOf.step typed (rep typed s) (.extend as)) := by
  have h := appendMany_rep hinv as
  dsimp only [SeqOf.step, ListSpec.step]
  rw [h.spec_eq]
  generalize ListSpec.appendMany typed s as = r at h
  obtain ⟨s', b⟩ := r
  cases b with
  | false => exact Sim.same h.inv_fst _
  | true => exact ⟨rfl, by cases s' <;> rfl, (inv_iff _).mpr ((inv_iff s').mp h.inv_fst)⟩

/-- slice assignment writes one by one from the slice's first position, which lies within the list -/
theorem setSlice_rep {s : St} (hinv : Inv typed s) (a b : Option Int) (as : List Arg) :
    Sim (rep typed) (Inv typed) (ListSpec.step typed s (.setSlice a b as))
      (SeqOf.step typed (rep typed s) (.setSlice a b as)) := by
  dsimp only [SeqOf.step, ListSpec.step]
  rw [len_rep]
  cases hst : (if size s = 0 then some 0 else (sliceRange (size s) a b).head?) with
  | none => exact Sim.same hinv _
  | some start =>
    have hle : start ≤ size s := by
      split at hst
      · cases hst; exact Nat.zero_le _
      · exact Nat.le_of_lt (sliceRange_lt (size s) a b start (List.mem_of_head? hst))
    have h := setMany_rep hinv start as hle
    simp only [h.spec_eq]
    generalize ListSpec.setMany typed s start as = r at h
    obtain ⟨s', b⟩ := r
    cases b <;> exact Sim.same h.inv_fst _

/-- `sort`: up to one element nothing is compared; beyond, the elements must all be values -/
theorem sort_rep {s : St} (hinv : Inv typed s) :
    Sim (rep typed) (Inv typed) (ListSpec.step typed s .sort) (SeqOf.step typed (rep typed s) .sort) := by
  cases s with
  | none => exact Sim.same hinv _
  | some l =>
    dsimp only [SeqOf.step, ListSpec.step]
    simp only [rep, enumFrom_map_snd, List.length_map]
    split
    · exact Sim.same hinv _
    · rw [allVals_map_comp]
      cases allSet l with
      | none => exact Sim.same hinv _
      | some zs =>
        refine ⟨rfl, by simp only [rep, List.map_map]; rfl, (inv_iff _).mpr fun _ x hx => ?_⟩
        obtain ⟨z, _, rfl⟩ := List.mem_map.mp hx
        nofun

theorem reverse_rep {s : St} (hinv : Inv typed s) :
    Sim (rep typed) (Inv typed) (ListSpec.step typed s .reverse) (SeqOf.step typed (rep typed s) .reverse) := by
  cases s with
  | none => exact Sim.same hinv _
  | some l =>
    refine ⟨rfl, ?_, (inv_iff _).mpr fun ht x hx => (inv_iff _).mp hinv ht x (List.mem_reverse.mp hx)⟩
    dsimp only [SeqOf.step, ListSpec.step]
    simp only [rep, dcomponents_enumFrom, List.map_reverse]

/-- a copy with values drops the `noValue` entries, and a representation has none -/
theorem clone_rep {s : St} (hinv : Inv typed s) (flag : Bool) :
    Sim (rep typed) (Inv typed) (ListSpec.step typed s (.clone flag))
      (SeqOf.step typed (rep typed s) (.clone flag)) := by
  cases flag with
  | false => exact Sim.same inv_none _
  | true =>
    cases s with
    | none => exact Sim.same hinv _
    | some l =>
      refine ⟨rfl, ?_, hinv⟩
      dsimp only [SeqOf.step, ListSpec.step]
      simp only [rep, Bool.not_true, Bool.false_eq_true, if_false, if_true,
        filter_nonhole_enumFrom l ((inv_iff _).mp hinv)]

def onlyLooks : SeqOfOp → Bool
  | .len | .iter | .contains _ | .getSlice _ _ | .count _ | .index _ | .pretty | .eqTo _ | .encode => true
  | _ => false

theorem isReader_of_onlyLooks (s : St) {op : SeqOfOp} (h : onlyLooks op = true) : isReader typed s op = true := by
  cases op with
  | len | iter | contains _ | getSlice _ _ | count _ | index _ | pretty | eqTo _ | encode => rfl
  | _ => cases h

theorem read_rep (s : St) (op : SeqOfOp) (hr : onlyLooks op = true) :
    SeqOf.step typed (rep typed s) op = (rep typed s, (ListSpec.step typed s op).2) := by
  cases op with
  | len => dsimp only [SeqOf.step, ListSpec.step]; rw [len_rep]
  | iter => dsimp only [SeqOf.step, ListSpec.step]; rw [iter_rep s]
  | contains z =>
    dsimp only [SeqOf.step, ListSpec.step]
    rw [len_rep, containsFrom_rep s z _ (fun _ => List.mem_range.mp), size, filterMap_range_get]
  | getSlice a b =>
    dsimp only [SeqOf.step, ListSpec.step]
    rw [len_rep, getMany_rep s _ (sliceRange_lt (size s) a b)]
  | count z =>
    cases s with
    | none => rfl
    | some l =>
      dsimp only [SeqOf.step, ListSpec.step, rep]
      rw [enumFrom_map_snd, allVals_map_comp]
      cases allSet l <;> rfl
  | index z =>
    cases s with
    | none => rfl
    | some l =>
      dsimp only [SeqOf.step, ListSpec.step, rep]
      rw [enumFrom_map_snd, indexIn_map_comp]
      cases hk : indexOf z l 0 with
      | none => rfl
      | some k =>
        -- the answer is the KEY of the first equal entry, which on a representation is its position
        have := (indexOf_lt hk).2
        simp only [enumFrom_fst_get 0 k (l.map (comp typed)) (by simpa using this), Nat.zero_add]
  | pretty =>
    dsimp only [SeqOf.step, ListSpec.step]
    rw [isValue_rep]
    cases ListSpec.isValue s with
    | false => rfl
    | true => simp only [if_true, iter_rep s]
  | eqTo vs =>
    cases s with
    | none => rfl
    | some l =>
      dsimp only [SeqOf.step, ListSpec.step, rep]
      rw [dcomponents_enumFrom, List.length_map, eqItems_map_comp]
  | encode =>
    -- the encoder's walk over a representation meets entries only, so it instantiates nothing
    dsimp only [SeqOf.step, ListSpec.step]
    rw [len_rep, encIter_rep s _ (fun _ => List.mem_range.mp)]
  | _ => cases hr

/-- what `Allowed` asks of a call by position: a bound on the normalised position -/
theorem norm_guard {s : St} {i : Int} {p : Nat → Bool} {j : Nat}
    (h : (match norm s i with | some j => p j | none => true) = true) (hj : norm s i = some j) : p j = true := by
  rw [hj] at h; exact h

/-- **one step** of the list prototype against the SEQUENCE OF / SET OF object that represents its
    state, for the operations `Allowed` admits -/
theorem step_rep {s : St} (hinv : Inv typed s) (op : SeqOfOp) (hal : Allowed typed s op = true) :
    Sim (rep typed) (Inv typed) (ListSpec.step typed s op) (SeqOf.step typed (rep typed s) op) := by
  cases op with
  -- a lemma stated over a `match` meets the step unfolded: unifying through the unfolding is slow
  | setItem i a | setPos i a =>
    dsimp only [SeqOf.step, ListSpec.step]
    exact setOut_rep hinv i (some a) _ fun j hj => of_decide_eq_true (norm_guard hal hj)
  | setNone i =>
    dsimp only [SeqOf.step, ListSpec.step]
    exact setOut_rep hinv i none .libErr fun j hj => by
      have := norm_guard hal hj
      cases typed <;> simpa using this
  | append a => exact append_rep hinv a
  | extend as => exact extend_rep hinv as
  | setSlice a b as => exact setSlice_rep hinv a b as
  | sort => exact sort_rep hinv
  | reverse => exact reverse_rep hinv
  | clear => exact Sim.same inv_nil _
  | reset => exact Sim.same inv_none _
  | clone flag => exact clone_rep hinv flag
  | getItem i => exact (getAt_rep hinv i true fun j hj => by simpa using norm_guard hal hj).map Out.asLookup
  | getPos i inst => exact getAt_rep hinv i inst fun j hj => norm_guard hal hj
  | len | iter | contains _ | getSlice _ _ | count _ | index _ | pretty | eqTo _ | encode =>
    exact Sim.read hinv (list_reader s _ (isReader_of_onlyLooks s rfl)) (read_rep s _ rfl)

theorem run_rep {s : St} (hinv : Inv typed s) (ops : List SeqOfOp) (hal : AllowedRun typed s ops) :
    Sim (rep typed) (Inv typed) (ListSpec.run typed s ops) (SeqOf.run typed (rep typed s) ops) :=
  Sim.run (run := ListSpec.run typed) (run' := SeqOf.run typed) (ok := AllowedRun typed)
    (fun _ => rfl) (fun _ => rfl) (fun _ _ _ => rfl) (fun _ _ _ => rfl)
    (fun _ op _ hinv hal => ⟨step_rep hinv op hal.1, hal.2⟩) ops s hinv hal

theorem setAt_refused {s : St} {i : Int} {a : Option Arg}
    (h : ∀ j, norm s i = some j → value typed (s.getD [])[j]? a = none) : ListSpec.setAt typed s i a = none := by
  unfold ListSpec.setAt
  cases hn : norm s i with
  | none => rfl
  | some j => simp only [h j hn]

theorem getAt_refused {s : St} {i : Int}
    (h : ∀ j, norm s i = some j → ((s.getD [])[j]?.isNone && (!typed || decide (size s < j))) = true) :
    ListSpec.getAt typed s i true = (s, .libErr) := by
  unfold ListSpec.getAt
  cases hn : norm s i with
  | none => rfl
  | some j =>
    have hj := h j hn
    simp only [Bool.and_eq_true, Option.isNone_iff_eq_none, Bool.or_eq_true, Bool.not_eq_true',
      decide_eq_true_eq] at hj
    simp only [hj.1, Bool.not_true, Bool.false_eq_true, if_false]
    refine if_neg fun hc => ?_
    rw [Bool.and_eq_true, beq_iff_eq] at hc
    rcases hj.2 with ht | ht
    · rw [ht] at hc; cases hc.1
    · exact absurd hc.2 (Nat.ne_of_gt ht)

/-- what `illFormed` says of a call by position: nowhere, or a position the call is refused at -/
theorem norm_refused {s : St} {i : Int} {p : Nat → Bool} {j : Nat}
    (h : (match norm s i with | none => true | some j => p j) = true) (hj : norm s i = some j) : p j = true := by
  rw [hj] at h; exact h

theorem append_refused (s : St) (a : Arg) (h : (value typed none (some a)).isNone = true) :
    ListSpec.setAt typed s (size s : Int) (some a) = none :=
  setAt_refused fun j hj => by
    cases (norm_nat s (size s)).symm.trans hj
    rw [show (s.getD [])[size s]? = none from List.getElem?_eq_none (Nat.le_refl _)]
    exact Option.isNone_iff_eq_none.mp h

/-- **ill-formed operations raise and change nothing** (the prototype): every one of them is an
    assignment or a read that the prototype refuses at its first position -/
theorem list_illformed (s : St) (op : SeqOfOp) (h : illFormed typed s op = true) :
    (ListSpec.step typed s op).2.isErr = true ∧ (ListSpec.step typed s op).1 = s := by
  cases op with
  | setItem i a | setPos i a =>
    have hs : ListSpec.setAt typed s i (some a) = none := setAt_refused fun j hj =>
      Option.isNone_iff_eq_none.mp (Bool.and_eq_true_iff.mp (norm_refused h hj)).2
    dsimp only [ListSpec.step]; rw [hs]; exact ⟨rfl, rfl⟩
  | setNone i =>
    have hs : ListSpec.setAt typed s i none = none := setAt_refused fun j hj => by
      rw [(Bool.not_eq_true' typed).mp (Bool.and_eq_true_iff.mp (norm_refused h hj)).1]; rfl
    dsimp only [ListSpec.step]; rw [hs]; exact ⟨rfl, rfl⟩
  | append a => dsimp only [ListSpec.step]; rw [append_refused s a h]; exact ⟨rfl, rfl⟩
  | extend as =>
    cases as with
    | nil => cases h
    | cons a as => dsimp only [ListSpec.step, ListSpec.appendMany]; rw [append_refused s a h]; exact ⟨rfl, rfl⟩
  | setSlice a b as =>
    dsimp only [illFormed] at h
    dsimp only [ListSpec.step]
    cases hst : (if size s = 0 then some 0 else (sliceRange (size s) a b).head?) with
    | none => exact ⟨rfl, rfl⟩
    | some k =>
      rw [hst] at h
      cases as with
      | nil => cases h
      | cons x xs =>
        have hs : ListSpec.setAt typed s (k : Int) (some x) = none := setAt_refused fun j hj => by
          cases (norm_nat s k).symm.trans hj
          exact Option.isNone_iff_eq_none.mp h
        dsimp only [ListSpec.setMany]; rw [hs]; exact ⟨rfl, rfl⟩
  | getItem i =>
    dsimp only [ListSpec.step]; rw [getAt_refused fun j hj => norm_refused h hj]; exact ⟨rfl, rfl⟩
  | getPos i inst =>
    cases inst with
    | false => cases h
    | true => dsimp only [ListSpec.step]; rw [getAt_refused fun j hj => norm_refused h hj]; exact ⟨rfl, rfl⟩
  | _ => cases h

end Asn1.Container
