/-
  Proofs.Placed — dispatch by tag, stated for decoded values that may differ from the encoded ones
  up to `VEq`, for DEFAULT members that are present although equal to their default, and for SET
  members in any order; what an encoder leaves behind (`Members`) is the case of equal values.
-/
import Asn1.BerSpec
import Proofs.Dispatch
import Proofs.DecInduct
import Proofs.VEq

namespace Asn1

/-- children of a record: `vs` are the values encoded, `ws` what the member decoders return -/
inductive Placed (P : Nat → Ty → Val → TLV → Val → Prop) :
    Nat → Fields → List Val → List TLV → List Val → Prop
  | nil {k} : Placed P k .nil [] [] []
  | skipOpt {k t rest vs cs ws} : Placed P (k + 1) rest vs cs ws →
      Placed P k (.cons .opt t rest) (.absent :: vs) cs (.absent :: ws)
  | skipDflt {k d t rest vs cs ws} : Placed P (k + 1) rest vs cs ws →
      Placed P k (.cons (.dflt d) t rest) (d :: vs) cs (d :: ws)
  | present {k kd t rest v vs c cs w ws} : P k t v c w → Placed P (k + 1) rest vs cs ws →
      Placed P k (.cons kd t rest) (v :: vs) (c :: cs) (w :: ws)

abbrev ElemDec (dcfg : DecCfg) : Nat → Ty → Val → TLV → Val → Prop :=
  fun _ t v c w => TagIn t c.tag ∧ decTy dcfg t c = .ok w ∧ VEq t v w ∧ w ≠ .absent

theorem placed_veq (dcfg : DecCfg) : ∀ {k fs vs cs ws}, Placed (ElemDec dcfg) k fs vs cs ws →
    Fields.WF fs = true → VEqFields fs vs ws := by
  intro k fs vs cs ws h
  induction h with
  | nil => intro _; trivial
  | @skipOpt k t rest vs cs ws _ ih =>
    intro hw
    exact ⟨veq_absent t, ih (Fields.WF_cons hw).2.1⟩
  | @skipDflt k d t rest vs cs ws _ ih =>
    intro hw
    exact ⟨veq_refl t d ((Fields.WF_cons hw).2.2 d rfl), ih (Fields.WF_cons hw).2.1⟩
  | @present k kd t rest v vs c cs w ws hp _ ih =>
    intro hw
    exact ⟨hp.2.2.1, ih (Fields.WF_cons hw).2.1⟩

/-- the positional decoder returns what the member decoders return; the next element lies in the
    window of tags up to the next mandatory member -/
theorem seq_dispatch2 (dcfg : DecCfg) : ∀ {k fs vs cs ws}, Placed (ElemDec dcfg) k fs vs cs ws →
    seqDistinct fs = true →
    decFields dcfg fs cs = .ok ws ∧ (∀ c cs', cs = c :: cs' → InWindow fs c.tag) := by
  intro k fs vs cs ws h
  induction h with
  | nil => intro _; exact ⟨by rw [decFields], nofun⟩
  | skipOpt _ ih | skipDflt _ ih =>
    intro hd
    obtain ⟨hdr, hwin⟩ := seqDistinct_cons hd
    obtain ⟨hrest, hnext⟩ := ih hdr
    -- the member is filled in: the next element, if any, belongs to the window of the members that
    -- follow, which shares no tag with this one
    refine ⟨?_, fun c cs' h => .inr ⟨nofun, hnext c cs' h⟩⟩
    rw [decFields_fill dcfg _ rfl fun c cs' h => windowFree_spec _ _ c.tag (hwin nofun) (hnext c cs' h),
      hrest]
    rfl
  | @present k kd t rest v vs c cs w ws hp _ ih =>
    intro hd
    have hdr := (seqDistinct_cons hd).1
    obtain ⟨htag, hdec, _, _⟩ := hp
    constructor
    · rw [decFields_take dcfg rest cs (.inr (accepts_of_tagIn htag)), hdec, (ih hdr).1]
      rfl
    · intro c' cs'' h
      obtain rfl := (List.cons.inj h).1
      exact .inl htag

theorem get?_tail {fsAll : Fields} {k : Nat} {kd : FKind} {t : Ty} {rest : Fields}
    (hs : ∀ j, fsAll.get? (k + j) = (Fields.cons kd t rest).get? j) (j : Nat) :
    fsAll.get? (k + 1 + j) = rest.get? j := by
  rw [Nat.add_assoc, Nat.add_comm 1 j]
  exact hs (j + 1)

theorem placed_mono {P Q : Nat → Ty → Val → TLV → Val → Prop} (fsAll : Fields)
    (hPQ : ∀ i kd t v c w, fsAll.get? i = some (kd, t) → P i t v c w → Q i t v c w) :
    ∀ {k suf vs cs ws}, Placed P k suf vs cs ws → (∀ j, fsAll.get? (k + j) = suf.get? j) →
      Placed Q k suf vs cs ws := by
  intro k suf vs cs ws h
  induction h with
  | nil => intro _; exact .nil
  | skipOpt _ ih => intro hs; exact .skipOpt (ih (get?_tail hs))
  | skipDflt _ ih => intro hs; exact .skipDflt (ih (get?_tail hs))
  | @present k kd t rest v vs c cs w ws hp _ ih =>
    intro hs
    exact .present (hPQ k kd t v c w (hs 0) hp) (ih (get?_tail hs))

abbrev MemberAt (dcfg : DecCfg) (fsAll : Fields) : Nat → Ty → Val → TLV → Val → Prop :=
  fun k _ _ c w => decMember dcfg fsAll 0 c = .ok (k, w) ∧ w ≠ .absent

/-- declared order: every member lands in its slot -/
theorem set_declared (dcfg : DecCfg) (fsAll : Fields) : ∀ {k suf vs ms ws},
    Placed (MemberAt dcfg fsAll) k suf vs ms ws → ∀ (pre : List Val), pre.length = k →
    decSet dcfg fsAll ms (pre ++ defaultsOf suf) = .ok (pre ++ ws) := by
  intro k suf vs ms ws h
  induction h with
  | nil => intro pre _; simp [decSet, defaultsOf]
  | @skipOpt k t rest vs cs ws _ ih =>
    intro pre hl
    have := ih (pre ++ [.absent]) (by simp [hl])
    simpa [defaultsOf] using this
  | @skipDflt k d t rest vs cs ws _ ih =>
    intro pre hl
    have := ih (pre ++ [d]) (by simp [hl])
    simpa [defaultsOf] using this
  | @present k kd t rest v vs c cs w ws hp _ ih =>
    intro pre hl
    have := ih (pre ++ [w]) (by simp [hl])
    rw [defaultsOf_cons]
    simp only [decSet, hp.1]
    rw [← hl, setAt_append]
    simpa using this

def updMember (dcfg : DecCfg) (fs : Fields) (acc : List Val) (c : TLV) : List Val :=
  match decMember dcfg fs 0 c with
  | .ok (i, w) => setAt acc i w
  | .error _ => acc

def idxMember (dcfg : DecCfg) (fs : Fields) (c : TLV) : Nat :=
  match decMember dcfg fs 0 c with
  | .ok (i, _) => i
  | .error _ => 0

theorem updMember_ok {dcfg : DecCfg} {fs : Fields} {c : TLV} {i : Nat} {w : Val}
    (h : decMember dcfg fs 0 c = .ok (i, w)) (acc : List Val) :
    updMember dcfg fs acc c = setAt acc i w := by
  rw [updMember, h]

theorem idxMember_ok {dcfg : DecCfg} {fs : Fields} {c : TLV} {i : Nat} {w : Val}
    (h : decMember dcfg fs 0 c = .ok (i, w)) : idxMember dcfg fs c = i := by
  rw [idxMember, h]

theorem decSet_foldl (dcfg : DecCfg) (fs : Fields) : ∀ (cs : List TLV) (acc : List Val),
    (∀ c ∈ cs, ∃ i w, decMember dcfg fs 0 c = .ok (i, w)) →
    decSet dcfg fs cs acc = .ok (cs.foldl (updMember dcfg fs) acc)
  | [], acc, _ => by simp [decSet]
  | c :: cs, acc, h => by
      obtain ⟨i, w, hc⟩ := h c (by simp)
      simp only [decSet, hc, List.foldl_cons, updMember_ok hc]
      exact decSet_foldl dcfg fs cs _ (fun c' hc' => h c' (by simp [hc']))

theorem setAt_eq_set : ∀ (l : List Val) (i : Nat) (x : Val), setAt l i x = l.set i x
  | [], _, _ => rfl
  | _ :: _, 0, _ => rfl
  | v :: l, i + 1, x => congrArg (v :: ·) (setAt_eq_set l i x)

theorem setAt_comm (z : List Val) (i j : Nat) (a b : Val) (h : i ≠ j) :
    setAt (setAt z i a) j b = setAt (setAt z j b) i a := by
  simp only [setAt_eq_set]
  exact List.set_comm a b h

theorem placed_indices (dcfg : DecCfg) (fsAll : Fields) : ∀ {k suf vs ms ws},
    Placed (MemberAt dcfg fsAll) k suf vs ms ws →
    (∀ c ∈ ms, ∃ i w, decMember dcfg fsAll 0 c = .ok (i, w) ∧ k ≤ i) ∧
      ms.Pairwise (fun x y => idxMember dcfg fsAll x < idxMember dcfg fsAll y) := by
  intro k suf vs ms ws h
  induction h with
  | nil => exact ⟨by intro c hc; simp at hc, List.Pairwise.nil⟩
  | skipOpt _ ih | skipDflt _ ih =>
    exact ⟨fun c hc => by obtain ⟨i, w, h1, h2⟩ := ih.1 c hc; exact ⟨i, w, h1, by omega⟩, ih.2⟩
  | @present k kd t rest v vs c cs w ws hp _ ih =>
    constructor
    · intro c' hc'
      rcases List.mem_cons.mp hc' with rfl | hc'
      · exact ⟨k, w, hp.1, Nat.le_refl _⟩
      · obtain ⟨i, w', h1, h2⟩ := ih.1 c' hc'; exact ⟨i, w', h1, by omega⟩
    · rw [List.pairwise_cons]
      refine ⟨fun c' hc' => ?_, ih.2⟩
      obtain ⟨i, w', h1, h2⟩ := ih.1 c' hc'
      rw [idxMember_ok hp.1, idxMember_ok h1]
      omega

theorem allPresent_cons {k : FKind} {t : Ty} {r : Fields} {w : Val} {ws : List Val}
    (h : k = .req → w ≠ .absent) : allPresent (.cons k t r) (w :: ws) = allPresent r ws := by
  rw [allPresent]
  exact h

theorem allPresent_placed {P : Nat → Ty → Val → TLV → Val → Prop}
    (hP : ∀ k t v c w, P k t v c w → w ≠ .absent) : ∀ {k fs vs cs ws}, Placed P k fs vs cs ws →
    allPresent fs ws = true := by
  intro k fs vs cs ws h
  induction h with
  | nil => rfl
  | skipOpt _ ih | skipDflt _ ih => exact (allPresent_cons (by nofun)).trans ih
  | present hp _ ih => exact (allPresent_cons fun _ => hP _ _ _ _ _ hp).trans ih

/-- lookup by tag recovers every SET member from any permutation of the elements -/
theorem set_dispatch2 (dcfg : DecCfg) (fs : Fields) (vs : List Val) (ms cs : List TLV) (ws : List Val)
    (hm : Placed (ElemDec dcfg) 0 fs vs ms ws) (hp : cs.Perm ms) (hd : allDistinct fs = true) :
    decSet dcfg fs cs (defaultsOf fs) = .ok ws ∧ allPresent fs ws = true := by
  have hm' : Placed (MemberAt dcfg fs) 0 fs vs ms ws := by
    refine placed_mono fs ?_ hm (fun j => by rw [Nat.zero_add])
    intro i kd t v c w hg ⟨htag, hdec, _, hna⟩
    refine ⟨?_, hna⟩
    rw [member_dispatch dcfg c fs i 0 kd t hd hg htag, hdec]
    simp [Except.map]
  obtain ⟨hall, hpw⟩ := placed_indices dcfg fs hm'
  have hdecl := set_declared dcfg fs hm' [] rfl
  simp only [List.nil_append] at hdecl
  have hok : ∀ c ∈ ms, ∃ i w, decMember dcfg fs 0 c = .ok (i, w) := by
    intro c hc
    obtain ⟨i, w, h1, _⟩ := hall c hc
    exact ⟨i, w, h1⟩
  rw [decSet_foldl dcfg fs ms _ hok] at hdecl
  rw [decSet_foldl dcfg fs cs _ fun c hc => hok c (hp.subset hc)]
  -- distinct elements go to distinct slots
  have hR : ∀ ⦃x⦄, x ∈ ms → ∀ ⦃y⦄, y ∈ ms →
      (idxMember dcfg fs x ≠ idxMember dcfg fs y ∨ x = y) := by
    apply List.Pairwise.forall_of_forall_of_flip
    · intro x _; exact Or.inr rfl
    · exact hpw.imp (fun h => Or.inl (by omega))
    · exact hpw.imp (fun h => Or.inl (by omega))
  have hfold : cs.foldl (updMember dcfg fs) (defaultsOf fs) = ms.foldl (updMember dcfg fs) (defaultsOf fs) := by
    apply List.Perm.foldl_eq' hp
    intro x hx y hy z
    obtain ⟨i, w, hxi, _⟩ := hall x (hp.subset hx)
    obtain ⟨j, w', hyj, _⟩ := hall y (hp.subset hy)
    rcases hR (hp.subset hx) (hp.subset hy) with hne | rfl
    · rw [idxMember_ok hxi, idxMember_ok hyj] at hne
      simp only [updMember_ok hxi, updMember_ok hyj]
      exact setAt_comm z i j w w' hne
    · rfl
  rw [hfold]
  exact ⟨hdecl, allPresent_placed (fun _ _ _ _ _ h => h.2) hm'⟩

theorem placed_of_members (dcfg : DecCfg) : ∀ (fs : Fields) (vs : List Val) (cs : List TLV) (k : Nat),
    Members (ElemOk dcfg) k fs vs cs → HasFields fs vs = true → Placed (ElemDec dcfg) k fs vs cs vs
  | .nil, [] => fun cs k hm _ => by rw [Members] at hm; subst hm; exact .nil
  | .nil, _ :: _ => fun _ _ hm _ => by simp [Members] at hm
  | .cons _ _ _, [] => fun _ _ hm _ => by simp [Members] at hm
  | .cons kd t rest, v :: vs => fun cs k hm hf => by
      cases hs : skipField kd v with
      | true =>
        rw [members_skipped hs] at hm
        obtain ⟨hfr, hk⟩ := hasFields_skipped hf hs
        have ih := placed_of_members dcfg rest vs cs (k + 1) hm hfr
        rcases hk with ⟨rfl, rfl⟩ | rfl
        · exact .skipOpt ih
        · exact .skipDflt ih
      | false =>
        obtain ⟨c, cs', rfl, ⟨htag, hdec⟩, hm'⟩ := (members_present hs).mp hm
        obtain ⟨hty, hfr⟩ := hasFields_present hf hs
        exact .present ⟨htag, hdec, veq_refl t v hty, fun he => by
          rw [he, HasType_ne_absent] at hty; cases hty⟩
          (placed_of_members dcfg rest vs cs' (k + 1) hm' hfr)

/-- the positional decoder with OPTIONAL/DEFAULT skipping recovers every SEQUENCE component -/
theorem seq_dispatch (dcfg : DecCfg) (fs : Fields) (vs : List Val) (cs : List TLV) (k : Nat)
    (hm : Members (ElemOk dcfg) k fs vs cs) (hf : HasFields fs vs = true) (hd : seqDistinct fs = true) :
    decFields dcfg fs cs = .ok vs ∧ (∀ c cs', cs = c :: cs' → InWindow fs c.tag) :=
  seq_dispatch2 dcfg (placed_of_members dcfg fs vs cs k hm hf) hd

/-- lookup by tag recovers every SET member, whatever the order of declaration -/
theorem set_dispatch (dcfg : DecCfg) (fs : Fields) (vs : List Val) (cs : List TLV)
    (hm : Members (ElemOk dcfg) 0 fs vs cs) (hf : HasFields fs vs = true) (hd : allDistinct fs = true) :
    decSet dcfg fs cs (defaultsOf fs) = .ok vs ∧ allPresent fs vs = true :=
  set_dispatch2 dcfg fs vs cs cs vs (placed_of_members dcfg fs vs cs 0 hm hf) (.refl _) hd

theorem all2_perm {α β} {R : α → β → Prop} : ∀ {ws vs : List α}, ws.Perm vs → ∀ {ws' : List β},
    All2 R ws ws' → ∃ cs', All2 R vs cs' ∧ cs'.Perm ws' := by
  intro ws vs hp
  induction hp with
  | nil => intro ws' h; exact ⟨ws', h, List.Perm.refl _⟩
  | @cons x l₁ l₂ _ ih =>
    intro ws' h
    cases ws' with
    | nil => simp [All2] at h
    | cons b bs =>
      obtain ⟨cs', h1, h2⟩ := ih h.2
      exact ⟨b :: cs', ⟨h.1, h1⟩, h2.cons b⟩
  | swap x y l =>
    intro ws' h
    match ws', h with
    | b1 :: b2 :: bs, h => exact ⟨b2 :: b1 :: bs, ⟨h.2.1, h.1, h.2.2⟩, List.Perm.swap b1 b2 bs⟩
  | trans _ _ ih1 ih2 =>
    intro ws' h
    obtain ⟨cs1, h1, p1⟩ := ih1 h
    obtain ⟨cs2, h2, p2⟩ := ih2 h1
    exact ⟨cs2, h2, p2.trans p1⟩

end Asn1
