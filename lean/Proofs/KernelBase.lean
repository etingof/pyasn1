/-
  Proofs.KernelBase — what the proofs about the translated source (`Asn1/GenKernels.lean`) share: PyLite's
  operators on casts of naturals, the two views of data the translated code computes on (`ints`, `bytesInts`)
  with indexing, length and slicing on them, the digit-peeling loop that several encoders contain, and the two's
  complement facts behind `x & 255` and `e << 8 | b` on negative operands.

  In the files that build on this one every `lift*` definition renders what the model answers in the vocabulary of
  the translated code (octets as tuples of ints, a refusal as the exception the source raises), so that a kernel
  theorem reads `GenK.f args = lift (model args)`.
-/
import Asn1.GenKernels
import Proofs.Digits
import Proofs.TagLen
import Asn1.Prim

namespace Asn1.Kernels
open Py

/-! ### PyLite on non-negative operands

The translated code computes on `Int`; the model on `Nat`. On casts of naturals the bit operators are
the naturals' own, and a mask `2^k - 1`, a shift by `k` are `% 2^k`, `/ 2^k`, `* 2^k`. -/

theorem band_nat (m n : Nat) : Py.band (m : Int) (n : Int) = ((m &&& n : Nat) : Int) := rfl
theorem bor_nat (m n : Nat) : Py.bor (m : Int) (n : Int) = ((m ||| n : Nat) : Int) := rfl
theorem shr_nat (m k : Nat) : Py.shr (m : Int) (k : Int) = ((m >>> k : Nat) : Int) := rfl

theorem band_low (m k : Nat) : Py.band (m : Int) ((2 ^ k - 1 : Nat) : Int) = ((m % 2 ^ k : Nat) : Int) :=
  congrArg Int.ofNat (Nat.and_two_pow_sub_one_eq_mod m k)
theorem shr_pow (m k : Nat) : Py.shr (m : Int) (k : Int) = ((m / 2 ^ k : Nat) : Int) :=
  congrArg Int.ofNat (Nat.shiftRight_eq_div_pow m k)
theorem shl_pow (m k : Nat) : Py.shl (m : Int) (k : Int) = ((m * 2 ^ k : Nat) : Int) := by
  rw [Int.natCast_mul, Int.natCast_pow]; rfl
/-- `|` adds when the right operand lies below the lowest set bit of the left one -/
theorem bor_low (x d k : Nat) (hx : x % 2 ^ k = 0) (hd : d < 2 ^ k) :
    Py.bor (x : Int) (d : Int) = ((x + d : Nat) : Int) := by
  obtain ⟨a, rfl⟩ := Nat.dvd_of_mod_eq_zero hx
  exact congrArg Int.ofNat (Nat.two_pow_add_eq_or_of_lt hd a).symm

theorem band_127 (m : Nat) : Py.band (m : Int) 127 = ((m % 128 : Nat) : Int) := band_low m 7
theorem band_255 (m : Nat) : Py.band (m : Int) 255 = ((m % 256 : Nat) : Int) := band_low m 8
theorem shr_7 (m : Nat) : Py.shr (m : Int) 7 = ((m / 128 : Nat) : Int) := shr_pow m 7
theorem shr_8 (m : Nat) : Py.shr (m : Int) 8 = ((m / 256 : Nat) : Int) := shr_pow m 8
theorem shl_7 (s : Nat) : Py.shl (s : Int) 7 = ((s * 128 : Nat) : Int) := shl_pow s 7
theorem bor_128 (d : Nat) (h : d < 128) : Py.bor 128 (d : Int) = ((d + 128 : Nat) : Int) :=
  Nat.add_comm 128 d ▸ bor_low 128 d 7 rfl h

theorem pow_nat (a : Int) (k : Nat) : Py.pow a (k : Int) = .ok (a ^ k) := by
  rw [Py.pow, if_neg (by omega), Int.toNat_natCast]; rfl

theorem truthy_nat (m : Nat) : Py.truthy (m : Int) = decide (m ≠ 0) := by
  cases m <;> rfl

/-! Comparisons of a cast with a numeral, as the translated `if`s make them, are the naturals'
(`simp only [le_lit, …]` turns the tests of the code into the tests of the model). -/

theorem le_lit (n k : Nat) : ((n : Int) ≤ (no_index (OfNat.ofNat k) : Int)) = (n ≤ (OfNat.ofNat k : Nat)) :=
  propext Int.ofNat_le
theorem lt_lit (n k : Nat) : ((n : Int) < (no_index (OfNat.ofNat k) : Int)) = (n < (OfNat.ofNat k : Nat)) :=
  propext Int.ofNat_lt
theorem lit_le (n k : Nat) : ((no_index (OfNat.ofNat k) : Int) ≤ (n : Int)) = ((OfNat.ofNat k : Nat) ≤ n) :=
  propext Int.ofNat_le
theorem lit_lt (n k : Nat) : ((no_index (OfNat.ofNat k) : Int) < (n : Int)) = ((OfNat.ofNat k : Nat) < n) :=
  propext Int.ofNat_lt
theorem eq_lit (n k : Nat) : ((n : Int) = (no_index (OfNat.ofNat k) : Int)) = (n = (OfNat.ofNat k : Nat)) :=
  propext Int.ofNat_inj

/-- the translated code's `let x ← if c then pure a else pure b` -/
theorem ite_ok {ε α} (c : Prop) [Decidable c] (a b : α) :
    (if c then (Except.ok a : Except ε α) else Except.ok b) = Except.ok (if c then a else b) := by
  split <;> rfl

theorem ok_bind {α β} (a : α) (f : α → Py.M β) : (Except.ok a >>= f) = f a := rfl
theorem tryCatch_ok {α} (x : α) (h : PyErr → Py.M α) : tryCatch (Except.ok x : Py.M α) h = .ok x := rfl
theorem throw_eq {α} (e : PyErr) : (throw e : Py.M α) = .error e := rfl

def ints (l : List Nat) : Py.Tup := l.map Int.ofNat

theorem ints_append (a b : List Nat) : ints (a ++ b) = ints a ++ ints b := List.map_append

theorem ints_contains (l : List Nat) (i : Nat) : (ints l).contains (i : Int) = l.contains i := by
  induction l with
  | nil => rfl
  | cons a rest ih =>
    rw [show ints (a :: rest) = (a : Int) :: ints rest from rfl, List.contains_cons, List.contains_cons, ih]
    congr 1
    exact Bool.eq_iff_iff.mpr (by simp only [beq_iff_eq]; exact Int.ofNat_inj)

/-- A fuel loop that peels the base-`b+2` digits off a natural number, least significant first, and puts
    `g digit` in front of what it has collected, leaves the big-endian digits when it has more fuel than
    the number. `F` is any function with the loop's two unfolding equations: each translated
    `while x: acc = [g(x % B)] + acc; x //= B` is one. -/
theorem digitLoop (b : Nat) (g : Nat → Nat) (F : Nat → Py.Tup → Int → Py.M (Py.Tup × Int))
    (h0 : ∀ f acc, F (f + 1) acc 0 = .ok (acc, 0))
    (hs : ∀ f acc (m : Nat), m ≠ 0 →
      F (f + 1) acc m = F f ([((g (m % (b + 2)) : Nat) : Int)] ++ acc) ((m / (b + 2) : Nat) : Int))
    (m : Nat) : ∀ (fuel : Nat) (acc : Py.Tup), m < fuel →
    F fuel acc (m : Int) = .ok (ints ((beDigits b m).map g) ++ acc, 0) := by
  induction m using Nat.strongRecOn with
  | _ m ih =>
    intro fuel acc hf
    obtain ⟨f, rfl⟩ : ∃ f, fuel = f + 1 := ⟨fuel - 1, by omega⟩
    by_cases hm : m = 0
    · subst hm; rw [beDigits_zero]; exact h0 f acc
    · have hd : m / (b + 2) < m := Nat.div_lt_self (Nat.pos_of_ne_zero hm) (by omega)
      rw [hs f acc m hm, ih _ hd f _ (by omega), beDigits_pos b m hm]
      simp only [ints, List.map_append, List.append_assoc]; rfl

def bytesInts (b : Bytes) : Py.Tup := b.map fun x => (x.toNat : Int)

theorem bytesInts_cons (b : UInt8) (bs : Bytes) : bytesInts (b :: bs) = (b.toNat : Int) :: bytesInts bs := rfl

theorem bytesInts_append (a b : Bytes) : bytesInts (a ++ b) = bytesInts a ++ bytesInts b :=
  List.map_append

theorem bytesInts_natsToBytes (ds : List Nat) (h : ∀ d ∈ ds, d < 256) :
    bytesInts (natsToBytes ds) = ints ds := by
  simp only [bytesInts, natsToBytes, ints, List.map_map]
  exact List.map_congr_left fun d hd => congrArg Int.ofNat (toNat_ofNat_lt d (h d hd))

theorem bytesInts_be256 (n : Nat) : bytesInts (natsToBytes (be256 n)) = ints (be256 n) :=
  bytesInts_natsToBytes _ fun d hd => beDigits_lt 254 n d hd

/-- indexing, `len` and `del` on data seen as a tuple of ints through any `f` (octets, code points) -/
theorem idx_map {α} (f : α → Int) (l : List α) (i : Nat) (h : i < l.length) :
    Py.idx (l.map f) (i : Int) = .ok (f l[i]) := by
  unfold Py.idx
  have h0 : ¬ ((i : Int) < 0) := by omega
  simp only [h0, if_false, Int.toNat_natCast]
  simp [h]
  rfl

theorem len_map {α} (f : α → Int) (l : List α) : Py.len (l.map f) = ((l.length : Nat) : Int) :=
  congrArg Int.ofNat (List.length_map f)

theorem map_eraseIdx {α β} (f : α → β) : ∀ (l : List α) (i : Nat), (l.map f).eraseIdx i = (l.eraseIdx i).map f
  | [], _ => rfl
  | _ :: _, 0 => rfl
  | a :: l, i + 1 => by simp [List.eraseIdx, map_eraseIdx f l i]

theorem delAt_map {α} (f : α → Int) (l : List α) (i : Nat) (h : i < l.length) :
    Py.delAt (l.map f) (i : Int) = .ok ((l.eraseIdx i).map f) := by
  unfold Py.delAt
  have h0 : ¬ ((i : Int) < 0) := by omega
  simp only [h0, if_false, Int.toNat_natCast, pure, Except.pure]
  have h1 : ¬ (False ∨ (i : Int) ≥ ((l.map f).length : Int)) := by
    simp only [List.length_map, false_or]; omega
  rw [if_neg h1, map_eraseIdx]

theorem idx_bytes (bs : Bytes) (i : Nat) (h : i < bs.length) :
    Py.idx (bytesInts bs) (i : Int) = .ok ((bs[i].toNat : Nat) : Int) := idx_map _ bs i h

theorem len_bytes (bs : Bytes) : Py.len (bytesInts bs) = ((bs.length : Nat) : Int) := len_map _ bs

theorem bytesInts_isEmpty (bs : Bytes) : (bytesInts bs).isEmpty = bs.isEmpty := by
  cases bs <;> rfl

theorem bytesInts_length (b : Bytes) : (bytesInts b).length = b.length := List.length_map _

theorem bytesInts_drop (bs : Bytes) (k : Nat) : (bytesInts bs).drop k = bytesInts (bs.drop k) :=
  List.map_drop.symm

theorem bytesInts_take (bs : Bytes) (k : Nat) : (bytesInts bs).take k = bytesInts (bs.take k) :=
  List.map_take.symm

theorem idx_cons_zero (h : Int) (t : List Int) : Py.idx (h :: t) 0 = Except.ok h := rfl

theorem readN_bytes (bs : Bytes) (i n : Nat) :
    Py.readN (bytesInts bs) (i : Int) (n : Int) =
      if i + n ≤ bs.length then .ok (bytesInts ((bs.drop i).take n)) else .error (.lib "SubstrateUnderrunError") := by
  unfold Py.readN
  rw [Int.toNat_natCast, Int.toNat_natCast, bytesInts_length, bytesInts_drop, bytesInts_take]
  rfl

theorem readN_one (bs : Bytes) (i : Nat) :
    Py.readN (bytesInts bs) (i : Int) 1 =
      if h : i < bs.length then .ok [(bs[i].toNat : Int)] else .error (.lib "SubstrateUnderrunError") := by
  refine (readN_bytes bs i 1).trans ?_
  by_cases h : i < bs.length
  · rw [if_pos (show i + 1 ≤ bs.length from h), dif_pos h, List.drop_eq_getElem_cons h]; rfl
  · rw [if_neg (show ¬ i + 1 ≤ bs.length from h), dif_neg h]

theorem and_two_pow (m i : Nat) : m &&& 2 ^ i = if m / 2 ^ i % 2 = 1 then 2 ^ i else 0 := by
  apply Nat.eq_of_testBit_eq
  intro j
  rw [Nat.testBit_and, Nat.testBit_two_pow]
  by_cases h : i = j
  · subst h
    rw [Nat.testBit_eq_decide_div_mod_eq]
    split <;> simp [*, Nat.testBit_two_pow_self]
  · split <;> simp [h]

theorem band_bit (m i : Nat) :
    Py.band (m : Int) ((2 ^ i : Nat) : Int) = if m / 2 ^ i % 2 = 1 then ((2 ^ i : Nat) : Int) else 0 := by
  rw [band_nat, and_two_pow]; split <;> rfl

theorem band_128 (m : Nat) (h : m < 256) : Py.band (m : Int) 128 = if m < 128 then 0 else 128 := by
  have hbit : (m / 2 ^ 7 % 2 = 1) ↔ ¬ m < 128 := by omega
  rw [show (128 : Int) = ((2 ^ 7 : Nat) : Int) from rfl, band_bit]
  simp only [hbit, ite_not]

theorem band_128_truthy (m : Nat) (h : m < 256) : Py.truthy (Py.band (m : Int) 128) = decide (¬ m < 128) := by
  rw [band_128 m h]
  by_cases h1 : m < 128 <;> simp only [h1, if_true, if_false, not_true_eq_false, not_false_eq_true, decide_true,
    decide_false] <;> rfl

theorem testBit_natLdiff (a b i : Nat) : (Py.natLdiff a b).testBit i = (a.testBit i && !b.testBit i) :=
  Nat.testBit_bitwise (by rfl) a b i

theorem testBit_255 (i : Nat) : (255 : Nat).testBit i = decide (i < 8) := Nat.testBit_two_pow_sub_one 8 i

theorem testBit_255_sub (r i : Nat) (hr : r < 256) : (255 - r).testBit i = (decide (i < 8) && !r.testBit i) := by
  rw [show 255 - r = 2 ^ 8 - (r + 1) by omega]
  exact Nat.testBit_two_pow_sub_succ hr i

theorem natLdiff_255 (m : Nat) : Py.natLdiff 255 m = 255 - m % 256 := by
  apply Nat.eq_of_testBit_eq
  intro i
  rw [testBit_natLdiff, testBit_255_sub _ i (Nat.mod_lt m (by decide)), testBit_255,
    show (256 : Nat) = 2 ^ 8 from rfl, Nat.testBit_mod_two_pow]
  by_cases hi : i < 8 <;> simp [hi]

theorem natLdiff_low (k b : Nat) (hb : b < 256) : Py.natLdiff (2 ^ 8 * k + 255) b = 2 ^ 8 * k + (255 - b) := by
  apply Nat.eq_of_testBit_eq
  intro i
  rw [testBit_natLdiff, Nat.testBit_two_pow_mul_add k (by decide : 255 < 2 ^ 8),
    Nat.testBit_two_pow_mul_add k (by omega : 255 - b < 2 ^ 8), testBit_255_sub b i hb, testBit_255]
  by_cases hi : i < 8
  · simp [hi]
  · have : b < 2 ^ i := Nat.lt_of_lt_of_le (by omega : b < 2 ^ 8) (Nat.pow_le_pow_right (by decide) (by omega))
    simp [hi, Nat.testBit_lt_two_pow this]

theorem bor_mul256 (e : Int) (b : Nat) (hb : b < 256) : Py.bor (e * 256) (b : Int) = e * 256 + b := by
  cases e with
  | ofNat k =>
    rw [Int.ofNat_eq_natCast, show (k : Int) * 256 = ((k * 256 : Nat) : Int) from rfl,
      bor_low (k * 256) b 8 (Nat.mul_mod_left k 256) hb, Int.natCast_add]
  | negSucc k =>
    have h1 : Int.negSucc k * (256 : Int) = Int.negSucc (2 ^ 8 * k + 255) := by
      rw [Int.negSucc_eq, Int.negSucc_eq]; omega
    rw [h1]
    show Int.negSucc (Py.natLdiff (2 ^ 8 * k + 255) b) = _
    rw [natLdiff_low k b hb, Int.negSucc_eq, Int.negSucc_eq]
    omega

theorem band_255_int (z : Int) : Py.band z 255 = z % 256 := by
  cases z with
  | ofNat m => exact (band_255 m).trans (Int.natCast_emod m 256)
  | negSucc m =>
    show Int.ofNat (Py.natLdiff 255 m) = _
    rw [natLdiff_255, Int.negSucc_eq]
    simp only [Int.ofNat_eq_natCast]
    omega

theorem shr_8_int (z : Int) : Py.shr z 8 = z / 256 := by
  unfold Py.shr
  show z >>> 8 = _
  rw [Int.shiftRight_eq_div_pow]
  rfl

theorem shl_8 (e : Int) : Py.shl e 8 = e * 256 := by
  unfold Py.shl; rfl

/-- one turn of every `x = x << 8 | octet` loop -/
theorem shl_bor_octet (e : Int) (b : UInt8) : Py.bor (Py.shl e 8) (b.toNat : Int) = e * 256 + b.toNat := by
  rw [shl_8, bor_mul256 e b.toNat (UInt8.toNat_lt b)]

theorem intFromBytesAux_nat : ∀ (bs : Bytes) (a : Nat),
    intFromBytesAux (a : Int) bs = (((bytesToNats bs).foldl (fun x d => x * 256 + d) a : Nat) : Int)
  | [], a => rfl
  | b :: rest, a => by
    simp only [intFromBytesAux, bytesToNats, List.map_cons, List.foldl_cons]
    have := intFromBytesAux_nat rest (a * 256 + b.toNat)
    simp only [bytesToNats] at this
    rw [← this]; congr 1

theorem intFromBytesAux_zero (bs : Bytes) : intFromBytesAux 0 bs = ((bytesToNat bs : Nat) : Int) :=
  intFromBytesAux_nat bs 0

/-- where `seek(-k, os.SEEK_CUR)` lands from `pos`, on a `BytesIO` and on a stream alike: back by `k`, stopping at the
    start -/
theorem seek_back_pos (pos k : Nat) :
    (if (pos : Int) + -(k : Int) < 0 then 0 else (pos : Int) + -(k : Int)) = ((pos - k : Nat) : Int) := by
  rw [← Int.sub_eq_add_neg]
  by_cases h : k ≤ pos
  · rw [if_neg (Int.not_lt.mpr (Int.sub_nonneg_of_le (Int.ofNat_le.mpr h))), Int.ofNat_sub h]
  · rw [if_pos (Int.sub_neg_of_lt (Int.ofNat_lt.mpr (Nat.lt_of_not_le h))), Nat.sub_eq_zero_of_le (Nat.le_of_not_le h)]
    rfl

end Asn1.Kernels
