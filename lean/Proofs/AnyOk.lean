/-
  Proofs.AnyOk — an ANY can capture every encoding of a value of a plain type without the tag
  `[UNIVERSAL 0]`: no element of such a tree carries the end-of-octets tag (`TLV.anyOk`, which the ANY
  decoder model demands of the element and of everything reached through indefinite-length levels).
-/
import Proofs.Complete

namespace Asn1

mutual
/-- no tagging with `[UNIVERSAL 0]` anywhere in the type -/
def Ty.noEooTag : Ty → Bool
  | .tagged _ c n t => (c != .universal || n != 0) && t.noEooTag
  | .seq fs => Fields.noEooTag fs
  | .set fs => Fields.noEooTag fs
  | .choice fs => Fields.noEooTag fs
  | .seqOf t => t.noEooTag
  | .setOf t => t.noEooTag
  | .prim _ => true
  | .any => true
def Fields.noEooTag : Fields → Bool
  | .nil => true
  | .cons _ t r => t.noEooTag && Fields.noEooTag r
end

def Tag.notEoo (tg : Tag) : Bool := !(tg.cls == .universal && tg.num == 0)

theorem anyOk_prim (h : Bytes) (tg : Tag) (c : Bytes) : (TLV.prim h tg c).anyOk = tg.notEoo := by
  simp [TLV.anyOk, Tag.notEoo]

theorem anyOk_cons (h : Bytes) (tg : Tag) (i : Bool) (cs : List TLV) (ht : tg.notEoo = true) (hc : anyOkL cs = true) :
    (TLV.cons h tg i cs).anyOk = true := by
  simp only [Tag.notEoo] at ht
  simp [TLV.anyOk, ht, hc]

theorem anyOkL_iff : ∀ (cs : List TLV), anyOkL cs = true ↔ ∀ c ∈ cs, c.anyOk = true
  | [] => by simp [anyOkL]
  | c :: cs => by simp [anyOkL, anyOkL_iff cs]

theorem anyOkL_perm (cs ms : List TLV) (hp : cs.Perm ms) (h : anyOkL ms = true) : anyOkL cs = true := by
  rw [anyOkL_iff] at h ⊢
  intro c hc
  exact h c (hp.mem_iff.mp hc)

theorem notEoo_univ (tg : Tag) (n : Nat) (h1 : tg.cls = .universal) (h2 : tg.num = n) (hn : n ≠ 0) : tg.notEoo = true := by
  simp [Tag.notEoo, h1, h2, hn]

theorem tag_of (x : TLV) : x.anyOk = true → x.tag.notEoo = true := by
  cases x with
  | prim h tg c => simp [TLV.anyOk, Tag.notEoo, TLV.tag]
  | cons h tg i cs =>
    simp only [TLV.anyOk, Tag.notEoo, TLV.tag, Bool.and_eq_true]
    intro h; exact h.1

mutual
theorem anyOk_seg : ∀ (x : TLV) (b : Bytes), IsSeg 4 x b → x.anyOk = true
  | .prim h tg c => fun b hs => by
      cases hs with
      | prim h1 h2 => rw [anyOk_prim]; exact notEoo_univ tg 4 h1 h2 (by decide)
  | .cons h tg i cs => fun b hs => by
      cases hs with
      | cons h1 h2 h3 => exact anyOk_cons _ _ _ _ (notEoo_univ tg 4 h1 h2 (by decide)) (anyOk_segs cs b h3)
theorem anyOk_segs : ∀ (cs : List TLV) (b : Bytes), IsSegs 4 cs b → anyOkL cs = true
  | [] => fun _ _ => rfl
  | c :: cs => fun b hs => by
      cases hs with
      | cons h1 h2 => simp [anyOkL, anyOk_seg c _ h1, anyOk_segs cs _ h2]
end

theorem anyOk_bitSegs : ∀ (cs : List TLV) (bs : List Bool), IsBitSegs cs bs → anyOkL cs = true
  | [] => fun _ _ => rfl
  | c :: cs => fun bs hs => by
      cases hs with
      | cons h1 h2 h3 =>
        simp only [anyOkL, Bool.and_eq_true]
        exact ⟨by rw [anyOk_prim]; exact notEoo_univ _ 3 h1 h2 (by decide), anyOk_bitSegs cs _ h3⟩

theorem univNum_ne_zero (p : PrimTy) (hp : (Ty.prim p).plain = true) : p.univNum ≠ 0 := by
  cases p with
  | str k => exact strKind_ne_zero k hp
  | _ => simp [PrimTy.univNum]

theorem anyOk_elems (pf : Profile) (t : Ty) (ih : ∀ v c, IsBer pf t v c → c.anyOk = true)
    (vs : List Val) (cs : List TLV) (h : IsElems pf t vs cs) : anyOkL cs = true :=
  h.induction (motive := fun _ cs => anyOkL cs = true) rfl fun hb hcs => by
    rw [anyOkL, ih _ _ hb, hcs]; rfl

variable (pf : Profile)

/-- the type's own identifier is not end-of-octets, so neither is the element's -/
theorem anyOk_of_body {t : Ty} {o : TagClass × Nat} (ho : t.outer = some o)
    (hne : (o.1 != .universal || o.2 != 0) = true)
    (hB : ∀ v x, IsBody pf t v x → x.tag.notEoo = true → x.anyOk = true) :
    (∀ v x, IsBer pf t v x → x.anyOk = true) ∧
    (∀ v x, IsBody pf t v x → x.tag.notEoo = true → x.anyOk = true) := by
  refine ⟨fun v x h => ?_, hB⟩
  obtain ⟨h1, h2, h3⟩ := h.outer ho
  refine hB v x h3 ?_
  rw [Tag.notEoo, h1, h2, Bool.not_and]
  exact hne

mutual
theorem anyOk_types : ∀ t : Ty, t.plain = true → t.noEooTag = true →
    (∀ v x, IsBer pf t v x → x.anyOk = true) ∧
    (∀ v x, IsBody pf t v x → x.tag.notEoo = true → x.anyOk = true)
  | .prim p => fun hp _ => anyOk_of_body pf rfl (by simp [univNum_ne_zero p hp]) fun v x h ht => by
      cases x with
      | prim => rwa [anyOk_prim]
      | cons hh tg i cs =>
        refine anyOk_cons _ _ _ _ ht ?_
        cases h with
        | bitsSeg _ _ h3 => exact anyOk_bitSegs _ _ h3
        | strSeg _ h3 => exact anyOk_segs _ _ h3
  | .seq fs => fun hp hn => anyOk_of_body pf rfl rfl fun v x h ht => by
      cases h with
      | seq h3 => exact anyOk_cons _ _ _ _ ht ((anyOk_members fs hp hn).1 _ _ h3)
  | .set fs => fun hp hn => anyOk_of_body pf rfl rfl fun v x h ht => by
      cases h with
      | set h3 h4 => exact anyOk_cons _ _ _ _ ht (anyOkL_perm _ _ h4 ((anyOk_members fs hp hn).1 _ _ h3))
  | .seqOf t => fun hp hn => anyOk_of_body pf rfl rfl fun v x h ht => by
      cases h with
      | seqOf h3 => exact anyOk_cons _ _ _ _ ht (anyOk_elems pf t (anyOk_types t hp hn).1 _ _ h3)
  | .setOf t => fun hp hn => anyOk_of_body pf rfl rfl fun v x h ht => by
      cases h with
      | setOf h3 _ => exact anyOk_cons _ _ _ _ ht (anyOk_elems pf t (anyOk_types t hp hn).1 _ _ h3)
  | .choice fs => fun hp hn =>
    ⟨fun v x h => by cases h with | choice ha => exact (anyOk_members fs hp hn).2 _ _ x ha,
     fun v x h ht => by
      cases h with
      | choice ha => exact anyOk_cons _ _ _ _ ht (by simp [anyOkL, (anyOk_members fs hp hn).2 _ _ _ ha])⟩
  | .any => fun hp _ => by cases hp
  | .tagged true cls num t => fun hp hn =>
    have hn := Bool.and_eq_true_iff.mp hn
    anyOk_of_body pf rfl hn.1 fun v x h ht => by
      cases h with
      | explicit h3 => exact anyOk_cons _ _ _ _ ht (by simp [anyOkL, (anyOk_types t hp hn.2).1 _ _ h3])
  | .tagged false cls num t => fun hp hn =>
    have hn := Bool.and_eq_true_iff.mp hn
    anyOk_of_body pf rfl hn.1 fun v x h ht => by
      cases h with
      | implicit h3 => exact (anyOk_types t hp hn.2).2 v x h3 ht
theorem anyOk_members : ∀ fs : Fields, Fields.plain fs = true → Fields.noEooTag fs = true →
    (∀ vs cs, IsFields pf fs vs cs → anyOkL cs = true) ∧
    (∀ i w x, IsAlt pf fs i w x → x.anyOk = true)
  | .nil => fun _ _ => ⟨fun _ _ h => by cases h; rfl, fun _ _ _ h => by cases h⟩
  | .cons kd t rest => fun hp hn => by
      have hp := Bool.and_eq_true_iff.mp hp
      have hn := Bool.and_eq_true_iff.mp hn
      have iht := (anyOk_types t hp.1 hn.1).1
      have ihr := anyOk_members rest hp.2 hn.2
      constructor
      · intro vs cs h
        cases h with
        | absentOpt hr => exact ihr.1 _ cs hr
        | absentDflt hr => exact ihr.1 _ cs hr
        | present hb hr => simp [anyOkL, iht _ _ hb, ihr.1 _ _ hr]
      · intro i w x h
        cases h with
        | here hb => exact iht w x hb
        | there ha => exact ihr.2 _ w x ha
end

theorem anyOk_ber : ∀ (t : Ty) (v : Val) (x : TLV), t.plain = true → t.noEooTag = true →
    IsBer pf t v x → x.anyOk = true :=
  fun t v x hp hn => (anyOk_types pf t hp hn).1 v x
theorem anyOk_body : ∀ (t : Ty) (v : Val) (x : TLV), t.plain = true → t.noEooTag = true →
    IsBody pf t v x → x.tag.notEoo = true → x.anyOk = true :=
  fun t v x hp hn => (anyOk_types pf t hp hn).2 v x
theorem anyOk_fields : ∀ (fs : Fields) (vs : List Val) (cs : List TLV),
    Fields.plain fs = true → Fields.noEooTag fs = true → IsFields pf fs vs cs → anyOkL cs = true :=
  fun fs vs cs hp hn => (anyOk_members pf fs hp hn).1 vs cs
theorem anyOk_alt : ∀ (fs : Fields) (i : Nat) (w : Val) (x : TLV),
    Fields.plain fs = true → Fields.noEooTag fs = true → IsAlt pf fs i w x → x.anyOk = true :=
  fun fs i w x hp hn => (anyOk_members pf fs hp hn).2 i w x

end Asn1
