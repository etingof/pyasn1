/-
  Proofs.ContainerSort — SET OF ordering (cer `SetOfEncoder`): the zero-padded octet comparison is a
  total preorder, it is antisymmetric on definite-length framed chunks, hence sorting any
  permutation of the member encodings gives the same list (C04 `setOf_perm_invariant`).
-/
import Asn1.Encoder
import Proofs.TagLen

namespace Asn1

theorem u8_tri (a b : UInt8) : a < b ∨ a = b ∨ b < a := by
  rcases Nat.lt_trichotomy a.toNat b.toNat with h | h | h
  · exact .inl (UInt8.lt_iff_toNat_lt.mpr h)
  · exact .inr (.inl (UInt8.toNat_inj.mp h))
  · exact .inr (.inr (UInt8.lt_iff_toNat_lt.mpr h))

theorem bytesLe_cons (a b : UInt8) (as bs : Bytes) :
    bytesLe (a :: as) (b :: bs) = (decide (a < b) || (a == b && bytesLe as bs)) := rfl

theorem bytesLe_total : ∀ a b : Bytes, (bytesLe a b || bytesLe b a) = true
  | [], _ => by simp [bytesLe]
  | _ :: _, [] => by simp [bytesLe]
  | a :: as, b :: bs => by
    have ih := bytesLe_total as bs
    rw [bytesLe_cons, bytesLe_cons]
    rcases u8_tri a b with h | h | h
    · simp [h]
    · subst h; simpa [UInt8.lt_irrefl] using ih
    · simp [h]

theorem bytesLe_trans : ∀ a b c : Bytes, bytesLe a b = true → bytesLe b c = true → bytesLe a c = true
  | [], _, _, _, _ => by simp [bytesLe]
  | _ :: _, [], _, h, _ => by simp [bytesLe] at h
  | _ :: _, _ :: _, [], _, h => by simp [bytesLe] at h
  | a :: as, b :: bs, c :: cs, h1, h2 => by
    rw [bytesLe_cons] at *
    simp only [Bool.or_eq_true, decide_eq_true_eq, Bool.and_eq_true, beq_iff_eq] at *
    rcases h1 with h1 | ⟨rfl, h1⟩
    · rcases h2 with h2 | ⟨rfl, _⟩
      · exact .inl (UInt8.lt_trans h1 h2)
      · exact .inl h1
    · rcases h2 with h2 | ⟨rfl, h2⟩
      · exact .inl h2
      · exact .inr ⟨rfl, bytesLe_trans as bs cs h1 h2⟩

theorem bytesLe_antisymm : ∀ a b : Bytes, bytesLe a b = true → bytesLe b a = true → a = b
  | [], [], _, _ => rfl
  | [], _ :: _, _, h => by simp [bytesLe] at h
  | _ :: _, [], h, _ => by simp [bytesLe] at h
  | a :: as, b :: bs, h1, h2 => by
    rw [bytesLe_cons] at *
    simp only [Bool.or_eq_true, decide_eq_true_eq, Bool.and_eq_true, beq_iff_eq] at *
    rcases h1 with h1 | ⟨rfl, h1⟩
    · rcases h2 with h2 | ⟨rfl, _⟩
      · exact (UInt8.lt_asymm h1 h2).elim
      · exact (UInt8.lt_irrefl _ h1).elim
    · rcases h2 with h2 | ⟨_, h2⟩
      · exact (UInt8.lt_irrefl _ h2).elim
      · rw [bytesLe_antisymm as bs h1 h2]

def padLe (m : Nat) (a b : Bytes) : Bool := bytesLe (padTo m a) (padTo m b)

theorem padLe_total (m : Nat) (a b : Bytes) : (padLe m a b || padLe m b a) = true :=
  bytesLe_total _ _

theorem padLe_trans (m : Nat) (a b c : Bytes) : padLe m a b = true → padLe m b c = true → padLe m a c = true :=
  bytesLe_trans _ _ _

theorem padLe_antisymm (m : Nat) (a b : Bytes) : padLe m a b = true → padLe m b a = true →
    padTo m a = padTo m b := bytesLe_antisymm _ _

theorem maxLen_perm {xs ys : List Bytes} (p : xs.Perm ys) :
    xs.foldl (fun a c => max a c.length) 0 = ys.foldl (fun a c => max a c.length) 0 :=
  List.Perm.foldl_eq' p (fun _ _ _ _ _ => Nat.max_right_comm ..) 0

/-- the padded key determines the chunk (no two distinct members are zero-paddings of one another) -/
def PadInj (l : List Bytes) : Prop :=
  ∀ m, ∀ a ∈ l, ∀ b ∈ l, padTo m a = padTo m b → a = b

/-- the sort without its shortcut for fewer than two chunks, which a merge sort leaves as they are -/
theorem sortSetOfChunks_eq (cs : List Bytes) :
    sortSetOfChunks cs = cs.mergeSort (padLe (cs.foldl (fun a c => max a c.length) 0)) := by
  unfold sortSetOfChunks
  split
  · rfl
  · match cs with
    | [] => exact List.mergeSort_nil.symm
    | [a] => exact (List.mergeSort_singleton a).symm
    | _ :: _ :: _ => rename_i h; exact absurd (Nat.succ_lt_succ (Nat.succ_pos _)) h

/-- **sorting a permutation gives the same list** when the padded key is injective on the members:
    two sorted permutations of one another agree where the order is antisymmetric -/
theorem sortSetOfChunks_perm {xs ys : List Bytes} (p : xs.Perm ys) (inj : PadInj xs) :
    sortSetOfChunks xs = sortSetOfChunks ys := by
  rw [sortSetOfChunks_eq, sortSetOfChunks_eq, ← maxLen_perm p]
  generalize xs.foldl (fun a c => max a c.length) 0 = m
  refine List.Perm.eq_of_pairwise (le := fun a b => padLe m a b = true) ?_
    (List.pairwise_mergeSort (padLe_trans m) (padLe_total m) xs)
    (List.pairwise_mergeSort (padLe_trans m) (padLe_total m) ys)
    (((List.mergeSort_perm xs _).trans p).trans (List.mergeSort_perm ys _).symm)
  intro a b ha hb h1 h2
  exact inj m a ((List.mergeSort_perm xs _).subset ha) b (p.symm.subset ((List.mergeSort_perm ys _).subset hb))
    (padLe_antisymm m a b h1 h2)

def Framed (hdr : Bytes) (c : Bytes) : Prop :=
  ∃ n l body, encodeLength n = some l ∧ body.length = n ∧ c = hdr ++ l ++ body

theorem padTo_eq (m : Nat) (b : Bytes) : padTo m b = b ++ List.replicate (m - b.length) 0 := rfl

theorem padTo_nil (m : Nat) : padTo m [] = List.replicate m 0 := rfl

theorem padTo_cons (m : Nat) (a : UInt8) (as : Bytes) : padTo (m + 1) (a :: as) = a :: padTo m as := by
  rw [padTo, padTo, List.length_cons, Nat.add_sub_add_right]; rfl

theorem framed_padInj_pair {hdr a b : Bytes} (ha : Framed hdr a) (hb : Framed hdr b) {m : Nat}
    (h : padTo m a = padTo m b) : a = b := by
  obtain ⟨n, l, body, hl, hbody, rfl⟩ := ha
  obtain ⟨n', l', body', hl', hbody', rfl⟩ := hb
  rw [padTo_eq, padTo_eq] at h
  simp only [List.append_assoc] at h
  have h1 := List.append_cancel_left h
  -- behind the header both sides start with length octets, and those can be read back: so `n = n'`
  have d1 := decodeLength_encodeLength n l hl (body ++ List.replicate (m - (hdr ++ (l ++ body)).length) 0)
  have d2 := decodeLength_encodeLength n' l' hl' (body' ++ List.replicate (m - (hdr ++ (l' ++ body')).length) 0)
  rw [h1] at d1
  rw [d1] at d2
  simp only [Except.ok.injEq, Prod.mk.injEq, Len.definite.injEq] at d2
  obtain ⟨hn, hrest⟩ := d2
  subst hn
  have hll : l = l' := by rw [hl] at hl'; exact Option.some.inj hl'
  subst hll
  have := List.append_inj hrest (by omega)
  rw [this.1]

theorem framed_padInj (hdr : Bytes) (l : List Bytes) (h : ∀ c ∈ l, Framed hdr c) : PadInj l :=
  fun m a ha b hb e => framed_padInj_pair (h a ha) (h b hb) e

end Asn1
