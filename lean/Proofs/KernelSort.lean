/-
  Proofs.KernelSort — the canonical ordering of SET OF elements (`cer/encoder.py` `SetOfEncoder.encodeValue`, shared by
  DER; translated from the source into `GenK.setOfSort`, the encoded elements being its argument) is the model's
  `sortSetOfChunks`: pad every element's encoding with zero octets to the longest, sort by the padded octets (stably),
  write the unpadded encodings in that order.
-/
import Proofs.KernelBase
import Asn1.Encoder

namespace Asn1.Kernels

theorem tupLe_bytes : ∀ (a b : Bytes), Py.tupLe (bytesInts a) (bytesInts b) = bytesLe a b
  | [], b => by cases b <;> rfl
  | x :: xs, [] => rfl
  | x :: xs, y :: ys => by
    simp only [bytesInts_cons, Py.tupLe, bytesLe, tupLe_bytes xs ys]
    have h1 : decide ((x.toNat : Int) < (y.toNat : Int)) = decide (x < y) :=
      decide_eq_decide.mpr (by rw [UInt8.lt_iff_toNat_lt, Int.ofNat_lt])
    have h2 : ((x.toNat : Int) == (y.toNat : Int)) = (x == y) :=
      Bool.eq_iff_iff.mpr (by rw [beq_iff_eq, beq_iff_eq, Int.natCast_inj, UInt8.toNat_inj])
    rw [h1, h2]

theorem bytesInts_replicate (n : Nat) : bytesInts (List.replicate n (0 : UInt8)) = List.replicate n (0 : Int) :=
  List.map_replicate

theorem ljust_bytes (c : Bytes) (m : Nat) :
    Py.ljust (bytesInts c) (m : Int) [0] = .ok (bytesInts (padTo m c)) := by
  simp only [Py.ljust, padTo, bytesInts_append, bytesInts_replicate, bytesInts_length, pure, Except.pure]
  congr 3
  omega

theorem mapM_map_ok {α β γ} (f : α → β) (F : β → Py.M γ) (g : α → γ) (hF : ∀ a, F (f a) = .ok (g a)) :
    ∀ l : List α, (l.map f).mapM F = .ok (l.map g)
  | [] => rfl
  | a :: l => by
    simp only [List.map_cons, List.mapM_cons, hF a, bind, Except.bind, pure, Except.pure, mapM_map_ok f F g hF l]

theorem foldl_max_cast : ∀ (cs : List Bytes) (a : Nat),
    (cs.map bytesInts).foldl (fun (a : Int) (c : Py.Tup) => max a (c.length : Int)) (a : Int) =
      ((cs.foldl (fun (a : Nat) (c : Bytes) => max a c.length) a : Nat) : Int)
  | [], _ => rfl
  | c :: cs, a => by
    simp only [List.map_cons, List.foldl_cons]
    have : max (a : Int) (((bytesInts c).length : Nat) : Int) = ((max a c.length : Nat) : Int) := by
      rw [bytesInts_length]; omega
    rw [this]
    exact foldl_max_cast cs _

theorem flatten_bytesInts (l : List Bytes) : (l.map bytesInts).flatten = bytesInts l.flatten :=
  List.map_flatten.symm

theorem maxLen_bytes (c0 : Bytes) (rest : List Bytes) :
    Py.maxLen ((c0 :: rest).map bytesInts) =
      .ok (((c0 :: rest).foldl (fun (a : Nat) (c : Bytes) => max a c.length) 0 : Nat) : Int) := by
  simp only [List.map_cons, Py.maxLen, pure, Except.pure, List.foldl_cons]
  rw [bytesInts_length, foldl_max_cast rest c0.length]
  simp

theorem sortByFst_pairs (m : Nat) (cs : List Bytes) :
    ((Py.sortByFst (cs.map fun c => (bytesInts (padTo m c), bytesInts c))).map fun x => x.2) =
      (cs.mergeSort (fun a b => bytesLe (padTo m a) (padTo m b))).map bytesInts := by
  unfold Py.sortByFst
  have h1 := List.map_mergeSort (r := fun a b => bytesLe (padTo m a) (padTo m b))
    (s := fun (a b : Py.Tup × Py.Tup) => Py.tupLe a.1 b.1) (f := fun c => (bytesInts (padTo m c), bytesInts c)) (l := cs)
    (by intro a _ b _; simp only [tupLe_bytes])
  rw [← h1, List.map_map]
  rfl

/-- **the SET OF ordering of CER and DER as it is in the source computes the model's `sortSetOfChunks`**, for every list of
    element encodings: one element or none is left alone, otherwise the encodings come out in ascending order of their
    zero-padded octets, equal keys in their original order -/
theorem setOfSort_kernel (cs : List Bytes) :
    GenK.setOfSort (cs.map bytesInts) = .ok (bytesInts (sortSetOfChunks cs).flatten, true, true) := by
  unfold GenK.setOfSort sortSetOfChunks
  by_cases h : cs.length > 1
  · have hc : decide ((((cs.map bytesInts).length : Nat) : Int) > 1) = true := by
      simp only [List.length_map, decide_eq_true_eq]; omega
    simp only [hc, if_true, h]
    obtain ⟨c0, rest, rfl⟩ := List.exists_cons_of_length_pos (Nat.lt_trans Nat.zero_lt_one h)
    rw [maxLen_bytes]
    generalize (c0 :: rest).foldl (fun (a : Nat) (c : Bytes) => max a c.length) 0 = m
    simp only [bind, Except.bind, pure, Except.pure]
    rw [mapM_map_ok bytesInts _ (fun c => (bytesInts (padTo m c), bytesInts c)) fun c => by simp only [ljust_bytes]]
    simp only [sortByFst_pairs, flatten_bytesInts]
  · have hc : decide ((((cs.map bytesInts).length : Nat) : Int) > 1) = false := by
      simp only [List.length_map, decide_eq_false_iff_not]; omega
    simp only [hc, Bool.false_eq_true, if_false, h, bind, Except.bind, pure, Except.pure, flatten_bytesInts]

end Asn1.Kernels
