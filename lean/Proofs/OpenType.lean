/-
  Proofs.OpenType — round trip of a record with an open type field (C18): the typed inner value is
  encoded, goes into the ANY field (untagged / IMPLICIT / EXPLICIT), the record is decoded, the
  field holds exactly the inner encoding, and decoding that with the mapped type gives the inner value.
-/
import Asn1.OpenType
import Proofs.Codec
import Proofs.AnyOk

namespace Asn1

/-- the field's own tag is not the end-of-octets tag; EXPLICIT refuses UNIVERSAL (as `Ty.WF`) -/
def AnyTag.ok : AnyTag → Bool
  | .none => true
  | .implicit c n => c != .universal || n != 0
  | .explicit c _ => c != .universal

/-- what is known of an encoded element: `GoodS` without the typing part, and with all lengths definite
    (in definite mode) in place of `lenForm` -/
structure Elem (dm : Bool) (x : TLV) : Prop where
  wf : x.WF
  notEoo : NotEoo x.ser
  allDef : dm = true → x.allDef = true

theorem wireTag_notEoo (c : TagClass) (k : Bool) (n : Nat) (ic : Bool) (h : (c != .universal || n != 0) = true) :
    (wireTag ⟨c, k, n⟩ ic).cls ≠ .universal ∨ (wireTag ⟨c, k, n⟩ ic).num ≠ 0 ∨ (wireTag ⟨c, k, n⟩ ic).constructed = true := by
  simp only [wireTag]
  by_cases hc : c = .universal
  · subst hc
    right; left
    simpa using h
  · exact Or.inl hc

/-- **the ANY field**: a complete element `x` put into the field comes back as exactly `x.ser` -/
theorem any_field (cfg : EncCfg) (dcfg : DecCfg) (o : EncOpts) (hi : o.ifNotEmpty = false) (a : AnyTag) (ha : a.ok = true)
    (x : TLV) (hx : Elem o.defMode x) (hany : x.anyOk = true) (b : Bytes)
    (h : finishItem cfg o a.ty (encValue cfg o a.ty (.any x.ser)) = .ok b) :
    ∃ y, b = y.ser ∧ Elem o.defMode y ∧ decTy dcfg a.ty y = .ok (.any x.ser) := by
  -- a tagged field: one header `[c n]` around `x`, which is all of the contents
  have tagged : ∀ (e : Bool) (c : TagClass) (n : Nat), a.ty = .tagged e c n .any →
      (c != .universal || n != 0) = true →
      ∃ y, b = y.ser ∧ Elem o.defMode y ∧ decTy dcfg a.ty y = .ok (.any x.ser) := by
    intro e c n hty hcn
    have htags : (Ty.tagged e c n .any).tags = [⟨c, e, n⟩] := by
      cases e <;> rfl
    have dec_explicit : ∀ hd i, decTy dcfg (.tagged true c n .any) (.cons hd (wireTag ⟨c, true, n⟩ i) i [x])
        = .ok (.any x.ser) := fun hd i => by
      rw [decTy_explicit_one, if_pos ⟨rfl, rfl⟩, decTy, if_pos hany]
    rw [hty] at h ⊢
    rw [encValue, encValue] at h
    cases hd : o.defMode with
    | false =>
      -- indefinite length: a constructed element holding `x`
      rw [hd, Bool.not_false, ← serList_single x] at h
      obtain ⟨hdr, y, _, hy, rfl, hw, hn⟩ := finishItem_cons (cs := [x]) htags rfl ⟨hx.wf, trivial⟩
        ⟨hx.notEoo, trivial⟩ (by rw [hi, Bool.and_false]) h
      cases hy
      refine ⟨_, rfl, ⟨hw, hn, nofun⟩, ?_⟩
      rw [hd]
      cases e with
      | false =>
        have hc : (!(!false) || anyOkL [x]) = true := by rw [anyOkL, anyOkL, hany]; rfl
        rw [decTy, if_pos ⟨rfl, rfl⟩, decBody, if_pos hc, serList_single]
      | true => exact dec_explicit hdr true
    | true =>
      -- definite length: the header loop over the one tag, around `x.ser` as primitive contents
      rw [hd, Bool.not_true] at h
      simp only [finishItem, htags, List.isEmpty_cons, Bool.and_false, Bool.false_and, Bool.false_eq_true,
        if_false] at h
      rw [wrapTags_prim _ _ _ [] _ (fun _ h => nomatch h) (.inl rfl)] at h
      obtain ⟨y, hy, rfl⟩ := Res.map_eq_ok.mp h
      cases hp : primNode ⟨c, e, n⟩ x.ser with
      | error _ => rw [hp] at hy; cases hy
      | ok y' =>
        rw [hp] at hy
        obtain rfl : y' = y := Except.ok.inj hy
        obtain ⟨l, hl, rfl⟩ := primNode_ok hp
        have hh := hdrOk_def ⟨c, e, n⟩ false x.ser.length l hl
        have hne := wireTag_notEoo c e n false hcn
        cases e with
        | false =>
          have hw : (TLV.prim (encodeTag ⟨c, false, n⟩ false ++ l) (wireTag ⟨c, false, n⟩ false) x.ser).WF :=
            ⟨hh, rfl⟩
          exact ⟨_, rfl, ⟨hw, notEoo_of_tag _ hw hne, fun _ => rfl⟩,
            by rw [decTy, if_pos ⟨rfl, rfl⟩, decBody]⟩
        | true =>
          -- EXPLICIT: the same octets are a constructed element with the one child `x`
          have hw : (TLV.cons (encodeTag ⟨c, true, n⟩ false ++ l) (wireTag ⟨c, true, n⟩ false) false [x]).WF :=
            ⟨by rw [serList_single]; exact hh, rfl, hx.wf, trivial⟩
          exact ⟨_, by simp [TLV.ser, serList_single],
            ⟨hw, notEoo_of_tag _ hw hne, fun _ => by simp [TLV.allDef, allDefL, hx.allDef hd]⟩,
            dec_explicit _ false⟩
  cases a with
  | none =>
    exact ⟨x, (Except.ok.inj h).symm, hx, by rw [AnyTag.ty, decTy, if_pos hany]⟩
  | implicit c n => exact tagged false c n rfl ha
  | explicit c n => exact tagged true c n rfl (Bool.or_eq_true_iff.mpr (.inl ha))

theorem elem_of_goodS {pf : Profile} {dm : Bool} {t : Ty} {v : Val} {b : Bytes} (h : GoodS pf dm t v b) :
    ∃ x, b = x.ser ∧ Elem dm x ∧ IsBer pf t v x := by
  obtain ⟨x, hb, hw, hn, hd, hber⟩ := h
  exact ⟨x, hb, ⟨hw, hn, fun h => lenForm_allDef hd h⟩, hber⟩

/-- **the record**: governing value and ANY field, encoded and decoded with the container type -/
theorem open_seq_roundtrip (cfg : EncCfg) (dcfg : DecCfg) (pf : Profile) (dm : Bool) (mc : Nat)
    (hR : EncRegion cfg pf mc) (hC : Compat pf dcfg) (hparse : dm = true ∨ dcfg.parse.allowIndef = true)
    (idTy : Ty) (g : Val) (hreg : idTy.reg true cfg dm = true) (hwf : idTy.WF = true)
    (hty : HasType idTy g = true) (hn : noE3 cfg.seqOmitEmpty idTy g = true)
    (a : AnyTag) (ha : a.ok = true) (x : TLV) (hx : Elem dm x) (hany : x.anyOk = true) (b tail : Bytes)
    (f : Bool) (hf : f = false)
    (h : finishItem cfg (mkO dm mc f) (openSeqTy idTy a)
          (encValue cfg (mkO dm mc f) (openSeqTy idTy a) (.seq [g, .any x.ser])) = .ok b) :
    ∃ g', decodeOne dcfg (openSeqTy idTy a) (b ++ tail) = .ok (.seq [g', .any x.ser], tail) ∧ VEq idTy g g' := by
  subst hf
  have ho' : (if cfg.seqOmitEmpty = true then { mkO dm mc false with ifNotEmpty := FKind.isOpt .req } else mkO dm mc false)
      = mkO dm mc false := by
    cases cfg.seqOmitEmpty <;> rfl
  obtain ⟨sub, ic, he⟩ := finish_ok h
  rw [he] at h
  obtain ⟨hfs, rfl⟩ := encValue_seq_ok he
  rcases (encFields_cons_ok ho').mp hfs with ⟨hs, _⟩ | ⟨_, b1, r1, h1, hr1, rfl⟩
  · cases g <;> cases hs
  rcases (encFields_cons_ok ho').mp hr1 with ⟨hs, _⟩ | ⟨_, b2, r2, h2, hr2, rfl⟩
  · cases hs
  cases hr2
  obtain ⟨x1, hb1, hx1, hber1⟩ := elem_of_goodS (encode_spec cfg pf dm mc hR false rfl idTy g b1 hreg hwf hty hn h1)
  obtain ⟨x2, hb2, hx2, hdec2⟩ := any_field cfg dcfg (mkO dm mc false) rfl a ha x hx hany b2 h2
  obtain ⟨g', hd1, hv1, _⟩ := complete_ty pf dcfg hC idTy g x1 (reg_plain true cfg dm idTy hreg) hwf hber1
  -- the SEQUENCE element around them
  have hsub : b1 ++ (b2 ++ []) = serList [x1, x2] := by simp [serList, hb1, hb2]
  rw [hsub] at h
  obtain ⟨hdr, y, _, hy, rfl, hw, _⟩ := finishItem_cons (t := openSeqTy idTy a) (cs := [x1, x2]) rfl rfl
    ⟨hx1.wf, hx2.wf, trivial⟩ ⟨hx1.notEoo, hx2.notEoo, trivial⟩ (Bool.and_false _) h
  cases hy
  have hok : (TLV.cons hdr (wireTag ⟨.universal, true, 16⟩ true) (!dm) [x1, x2]).okFor dcfg.parse :=
    hparse.symm.imp_right fun hdm => by
      simp [TLV.allDef, allDefL, hdm, hx1.allDef hdm, hx2.allDef hdm]
  refine ⟨g', ?_, hv1⟩
  rw [decodeOne_ser dcfg _ _ tail hw hok, openSeqTy, decTy_eq_decBody dcfg (o := (.universal, 16)) rfl,
    if_pos ⟨rfl, rfl⟩, decBody, decFields_take dcfg _ _ (.inl rfl), hd1, Res.bind_ok,
    decFields_take dcfg _ _ (.inl rfl), hdec2, Res.bind_ok, decFields]
  rfl

mutual
theorem reg_noEooTag (rl : Bool) (cfg : EncCfg) (dm : Bool) : ∀ (t : Ty), t.reg rl cfg dm = true → t.noEooTag = true
  | .prim _, _ => rfl
  | .any, h => by cases h
  | .seq fs, h | .set fs, h | .choice fs, h => regF_noEooTag rl cfg dm fs h
  | .seqOf t, h | .setOf t, h => reg_noEooTag rl cfg dm t h
  | .tagged _ _ _ t, h =>
    have h := Bool.and_eq_true_iff.mp h
    Bool.and_eq_true_iff.mpr ⟨(Bool.and_eq_true_iff.mp h.1).1, reg_noEooTag rl cfg dm t h.2⟩
theorem regF_noEooTag (rl : Bool) (cfg : EncCfg) (dm : Bool) : ∀ (fs : Fields), Fields.reg rl cfg dm fs = true →
    Fields.noEooTag fs = true
  | .nil, _ => rfl
  | .cons _ t r, h =>
    have h := Bool.and_eq_true_iff.mp h
    Bool.and_eq_true_iff.mpr ⟨reg_noEooTag rl cfg dm t h.1, regF_noEooTag rl cfg dm r h.2⟩
end

/-- **open types round trip** (any encoder/decoder pair with a common profile, any mode, any tail) -/
theorem open_roundtrip (cfg : EncCfg) (dcfg : DecCfg) (pf : Profile) (o : EncOpts) (hi : o.ifNotEmpty = false)
    (hR : EncRegion cfg pf (cfg.fixedChunk.getD o.maxChunk)) (hC : Compat pf dcfg)
    (hparse : cfg.fixedDefMode.getD o.defMode = true ∨ dcfg.parse.allowIndef = true)
    (idTy : Ty) (g : Val) (hreg : idTy.reg true cfg (cfg.fixedDefMode.getD o.defMode) = true) (hwf : idTy.WF = true)
    (hty : HasType idTy g = true) (hn : noE3 cfg.seqOmitEmpty idTy g = true) (hid : ∀ g', VEq idTy g g' → g' = g)
    (a : AnyTag) (ha : a.ok = true)
    (ti : Ty) (w : Val) (hregi : ti.reg true cfg (cfg.fixedDefMode.getD o.defMode) = true) (hwfi : ti.WF = true)
    (htyi : HasType ti w = true) (hni : noE3 cfg.seqOmitEmpty ti w = true)
    (map : Val → Option Ty) (b tail : Bytes) (h : encodeOpen cfg o idTy a g ti w = .ok b) :
    ∃ chunk, encItem cfg o ti w = .ok chunk ∧
      decodeOpen dcfg idTy a map false (b ++ tail) = .ok (⟨g, chunk, none⟩, tail) ∧
      (map g = none → decodeOpen dcfg idTy a map true (b ++ tail) = .ok (⟨g, chunk, none⟩, tail)) ∧
      (map g = some ti → ∃ w', decodeOpen dcfg idTy a map true (b ++ tail) = .ok (⟨g, chunk, some w'⟩, tail) ∧ VEq ti w w') := by
  unfold encodeOpen at h
  rw [opts_eq o hi] at h
  cases hc : encItem cfg o ti w with
  | error e => rw [hc] at h; simp at h
  | ok chunk =>
    rw [hc] at h
    simp only at h
    -- the inner encoding is one complete element no ANY refuses
    obtain ⟨x, hcx, hx, hber⟩ := elem_of_goodS (encode_spec cfg pf _ _ hR o.ifNotEmpty hi ti w chunk hregi hwfi htyi hni hc)
    have hany : x.anyOk = true :=
      anyOk_ber pf ti w x (reg_plain true cfg _ ti hregi) (reg_noEooTag true cfg _ ti hregi) hber
    subst hcx
    obtain ⟨g', hdec, hvg⟩ := open_seq_roundtrip cfg dcfg pf _ _ hR hC hparse idTy g hreg hwf hty hn a ha x hx hany b tail
      o.ifNotEmpty hi h
    have hg : g' = g := hid g' hvg
    subst hg
    obtain ⟨w', hdi, hvi⟩ := codec_roundtrip cfg dcfg pf o hi hR hC hparse ti w x.ser [] hregi hwfi htyi hni hc
    rw [List.append_nil] at hdi
    refine ⟨x.ser, rfl, ?_, ?_, ?_⟩
    · simp [decodeOpen, hdec]
    · intro hm; simp [decodeOpen, hdec, hm]
    · intro hm
      exact ⟨w', by simp [decodeOpen, hdec, hm, hdi], hvi⟩

end Asn1
