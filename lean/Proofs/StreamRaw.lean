/-
  Proofs.StreamRaw — short reads are invisible above `readFromStream`: the collecting loop over raw
  `read()` calls returns exactly what the `read n` primitive of `run` returns (`readAns`), whatever
  number of octets each individual call hands out.
-/
import Asn1.Stream

namespace Asn1.Stream

theorem take_split (l : Bytes) (a b : Nat) (h : a ≤ b) :
    l.take a ++ (l.drop a).take (b - a) = l.take b := by
  rw [← List.take_add, Nat.add_sub_cancel' h]

theorem rawRead_some (d : Bytes) (closed : Bool) (cap pos n : Nat) (hn : n ≠ 0) (hp : pos < d.length) :
    ∃ j, (0 < j ∧ j ≤ n ∧ pos + j ≤ d.length) ∧
      rawRead d closed cap pos n = some ((d.drop pos).take j) := by
  refine ⟨min (min n (cap + 1)) (d.length - pos),
    ⟨Nat.lt_min.mpr ⟨Nat.lt_min.mpr ⟨Nat.pos_of_ne_zero hn, Nat.succ_pos _⟩, Nat.sub_pos_of_lt hp⟩,
      Nat.le_trans (Nat.min_le_left ..) (Nat.min_le_left ..),
      Nat.add_le_of_le_sub' (Nat.le_of_lt hp) (Nat.min_le_right ..)⟩, ?_⟩
  rw [rawRead, if_neg hn, if_neg (by omega), ← List.length_drop, ← List.take_eq_take_min]

theorem gatherLoop_step (d : Bytes) (closed : Bool) (capOf : Nat → Nat) (fuel pos missing : Nat)
    (acc x : Bytes) (h0 : missing ≠ 0) (hx : x ≠ [])
    (hr : rawRead d closed (capOf fuel) pos missing = some x) :
    gatherLoop d closed capOf (fuel + 1) pos missing acc =
      gatherLoop d closed capOf fuel (pos + x.length) (missing - x.length) (acc ++ x) := by
  rw [gatherLoop, if_neg h0, hr]
  cases x with
  | nil => exact absurd rfl hx
  | cons _ _ => rfl

theorem gatherLoop_spec (d : Bytes) (closed : Bool) (capOf : Nat → Nat) :
    ∀ (fuel pos missing : Nat) (acc : Bytes), missing ≤ fuel → pos ≤ d.length →
      gatherLoop d closed capOf fuel pos missing acc =
        if pos + missing ≤ d.length then .ok (acc ++ (d.drop pos).take missing)
        else if closed then .eos else .wait := by
  intro fuel
  induction fuel with
  | zero =>
    intro pos missing acc hm hp
    obtain rfl : missing = 0 := by omega
    simp [gatherLoop, hp]
  | succ fuel ih =>
    intro pos missing acc hm hp
    by_cases h0 : missing = 0
    · subst h0; simp [gatherLoop, hp]
    by_cases hend : d.length ≤ pos
    · rw [gatherLoop, if_neg h0, rawRead, if_neg h0, if_pos hend,
        if_neg (show ¬ pos + missing ≤ d.length by omega)]
      cases closed <;> rfl
    -- a piece of `j` octets comes back; the loop behind it returns the other `missing - j`
    obtain ⟨j, ⟨hj0, hjm, hjd⟩, hr⟩ := rawRead_some d closed (capOf fuel) pos missing h0 (by omega)
    have hl : ((d.drop pos).take j).length = j :=
      List.length_take_of_le (by rw [List.length_drop]; exact Nat.le_sub_of_add_le' hjd)
    rw [gatherLoop_step d closed capOf fuel pos missing acc _ h0
      (List.ne_nil_of_length_pos (by omega)) hr, hl, ih _ _ _ (by omega) hjd,
      Nat.add_assoc pos j, Nat.add_sub_cancel' hjm, List.append_assoc, ← List.drop_drop,
      take_split _ j missing hjm]

/-- **short reads are invisible**: whatever each raw `read()` call hands out (at least one octet
    when octets are there), `readFromStream` answers as the `read n` primitive of the model does —
    the n octets when they have all arrived, an underrun while the stream is open, EndOfStreamError
    once it is closed -/
theorem readFromStreamRaw_eq_readAns (k : Kind) (hk : k ≠ .bytesIO) (d : Bytes) (closed : Bool)
    (capOf : Nat → Nat) (pos n : Nat) (hp : pos ≤ d.length) :
    readFromStreamRaw d closed capOf pos n = readAns k d closed pos n := by
  unfold readFromStreamRaw readAns
  rw [gatherLoop_spec d closed capOf (n + 1) pos n [] (by omega) hp]
  have : k.isOpen closed = !closed := by cases k <;> simp_all [Kind.isOpen]
  by_cases h : pos + n ≤ d.length
  · simp [h]
  · simp only [h, if_false, this]
    cases closed <;> simp

end Asn1.Stream
