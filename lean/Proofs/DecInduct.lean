/-
  Proofs.DecInduct — the guided decoder's clauses in the form the inductions on the type use:
  when a result is `ok` (inversion of the scalar decoders, of the walkers over element lists, of
  `decodeOne`), `decTy` as "compare the identifier, then `decBody`", and `onlyChild` for the two
  places (explicit tagging, an untagged CHOICE's body) where an element must be a wrapper around
  exactly one other.
-/
import Asn1.Decoder
import Proofs.Res
import Proofs.Parse

namespace Asn1

theorem decPrim_bool_lax {cfg : DecCfg} (hs : cfg.boolStrict = false) (h : Bytes) (t : Tag)
    (c : Bytes) : decPrim cfg .boolean (.prim h t c) = .ok (.bool (intFromBytes c != 0)) := by
  simp only [decPrim, hs, Bool.false_eq_true, if_false]

theorem decPrim_bool_strict {cfg : DecCfg} (hs : cfg.boolStrict = true) {h : Bytes} {t : Tag}
    {c : Bytes} {v : Val} :
    decPrim cfg .boolean (.prim h t c) = .ok v ↔
      (c = [0x00] ∧ v = .bool false) ∨ (c = [0xFF] ∧ v = .bool true) := by
  simp only [decPrim, hs, if_true]
  match c with
  | [] | _ :: _ :: _ => simp
  | [b] =>
    by_cases h1 : b = 0xFF
    · subst h1; simp [eq_comm]
    · by_cases h0 : b = 0
      · subst h0; simp [eq_comm]
      · simp [h1, h0]

theorem decPrim_prim_cfg (a b : DecCfg) {p : PrimTy} (hp : p ≠ .boolean) (h : Bytes) (t : Tag)
    (c : Bytes) : decPrim a p (.prim h t c) = decPrim b p (.prim h t c) := by
  cases p <;> first | rfl | exact absurd rfl hp

theorem decPrim_cons_ok {cfg : DecCfg} {p : PrimTy} {hd : Bytes} {tg : Tag} {i : Bool}
    {cs : List TLV} {v : Val} :
    decPrim cfg p (.cons hd tg i cs) = .ok v ↔
      (p = .bitString ∧ (!i && cs.isEmpty) = false ∧ cfg.consBits = true ∧
        ∃ fr bs, decBitSegments cs = .ok fr ∧ concatBitFrags fr = .ok bs ∧ .bits bs = v) ∨
      (∃ k fs, p = .str k ∧ cfg.consStr.contains k = true ∧ decSegments 4 cs = .ok fs ∧
        .str fs.flatten = v) := by
  cases p with
  | bitString =>
    rw [decPrim, Res.err_ite_eq_ok, Res.ite_eq_ok]
    cases hfr : decBitSegments cs with
    | error e => simp
    | ok fr => simp [Res.map_eq_ok]
  | str k =>
    rw [decPrim, Res.ite_eq_ok, Res.map_eq_ok]
    simp
  | _ =>
    constructor
    · intro h; cases h
    · rintro (⟨hp, _⟩ | ⟨_, _, hp, _⟩) <;> cases hp

/-- class and number `decTy` compares the element's identifier with; CHOICE and ANY have none -/
def Ty.outer : Ty → Option (TagClass × Nat)
  | .tagged _ cls num _ => some (cls, num)
  | .prim p => some (.universal, p.univNum)
  | .seq _ | .seqOf _ => some (.universal, 16)
  | .set _ | .setOf _ => some (.universal, 17)
  | .choice _ | .any => none

theorem decTy_eq_decBody (cfg : DecCfg) {t : Ty} {o : TagClass × Nat} (ho : t.outer = some o)
    (x : TLV) :
    decTy cfg t x
      = if x.tag.cls = o.1 ∧ x.tag.num = o.2 then decBody cfg t x else .error .malformed := by
  cases t with
  | choice | any => cases ho
  | tagged e cls num t =>
    cases ho
    cases e with
    | false => rw [decTy, decBody]
    | true =>
      -- both sides fail unless `x` is a wrapper around exactly one element
      unfold decTy decBody
      split
      · rfl
      · rw [ite_self]
  | prim => cases ho; rw [decTy, decBody]
  | _ => cases ho; rw [decTy]

theorem decTy_eq_ok {cfg : DecCfg} {t : Ty} {o : TagClass × Nat} (ho : t.outer = some o) {x : TLV}
    {w : Val} :
    decTy cfg t x = .ok w ↔ (x.tag.cls = o.1 ∧ x.tag.num = o.2) ∧ decBody cfg t x = .ok w := by
  rw [decTy_eq_decBody cfg ho, Res.ite_eq_ok]

def onlyChild (f : TLV → Res Val) : TLV → Res Val
  | .cons _ _ _ [c] => f c
  | _ => .error .malformed

theorem onlyChild_ok {f : TLV → Res Val} {x : TLV} {v : Val} :
    onlyChild f x = .ok v ↔ ∃ hd tg i c, x = .cons hd tg i [c] ∧ f c = .ok v := by
  constructor
  · intro h
    unfold onlyChild at h
    split at h
    · exact ⟨_, _, _, _, rfl, h⟩
    · cases h
  · rintro ⟨_, _, _, _, rfl, h⟩
    exact h

theorem onlyChild_congr {f g : TLV → Res Val} (h : ∀ c, f c = g c) (x : TLV) :
    onlyChild f x = onlyChild g x := by
  rw [funext h]

theorem decBody_explicit (cfg : DecCfg) (cls : TagClass) (num : Nat) (t : Ty) (x : TLV) :
    decBody cfg (.tagged true cls num t) x = onlyChild (decTy cfg t) x := by
  unfold decBody
  rfl

/-- a CHOICE whose tag has been compared or replaced is the only element inside -/
theorem decBody_choice (cfg : DecCfg) (fs : Fields) (x : TLV) :
    decBody cfg (.choice fs) x = onlyChild (decAlt cfg fs 0) x := by
  match x with
  | .cons _ _ _ [_] | .prim .. | .cons _ _ _ [] | .cons _ _ _ (_ :: _ :: _) => unfold decBody; rfl


theorem decTy_explicit_one (cfg : DecCfg) (cls : TagClass) (num : Nat) (t : Ty) (h : Bytes) (tg : Tag)
    (i : Bool) (child : TLV) :
    decTy cfg (.tagged true cls num t) (.cons h tg i [child])
      = if tg.cls = cls ∧ tg.num = num then decTy cfg t child else .error .malformed := by
  rw [decTy]

theorem decTy_explicit_prim (cfg : DecCfg) (cls : TagClass) (num : Nat) (t : Ty) (h : Bytes) (tg : Tag)
    (c : Bytes) : decTy cfg (.tagged true cls num t) (.prim h tg c) = .error .malformed := by
  rw [decTy_eq_decBody cfg rfl, decBody_explicit]
  exact ite_self _

theorem decTy_explicit_many (cfg : DecCfg) (cls : TagClass) (num : Nat) (t : Ty) (h : Bytes) (tg : Tag)
    (i : Bool) (cs : List TLV) (hl : cs.length ≠ 1) :
    decTy cfg (.tagged true cls num t) (.cons h tg i cs) = .error .malformed := by
  rw [decTy_eq_decBody cfg rfl, decBody_explicit]
  match cs, hl with
  | [], _ | _ :: _ :: _, _ => exact ite_self _

theorem decBody_explicit_one (cfg : DecCfg) (cls : TagClass) (num : Nat) (t : Ty) (h : Bytes) (tg : Tag)
    (i : Bool) (child : TLV) :
    decBody cfg (.tagged true cls num t) (.cons h tg i [child]) = decTy cfg t child :=
  decBody_explicit cfg cls num t _

theorem decBody_explicit_prim (cfg : DecCfg) (cls : TagClass) (num : Nat) (t : Ty) (h : Bytes) (tg : Tag)
    (c : Bytes) : decBody cfg (.tagged true cls num t) (.prim h tg c) = .error .malformed :=
  decBody_explicit cfg cls num t _

theorem decBody_explicit_many (cfg : DecCfg) (cls : TagClass) (num : Nat) (t : Ty) (h : Bytes) (tg : Tag)
    (i : Bool) (cs : List TLV) (hl : cs.length ≠ 1) :
    decBody cfg (.tagged true cls num t) (.cons h tg i cs) = .error .malformed := by
  rw [decBody_explicit]
  match cs, hl with
  | [], _ | _ :: _ :: _, _ => rfl

theorem decSegments_cons (num : Nat) (t : TLV) (rest : List TLV) :
    decSegments num (t :: rest)
      = (decSegment num t).bind fun c => (decSegments num rest).map (c :: ·) := by
  rw [decSegments]; cases decSegment num t <;> rfl

theorem decElems_cons (cfg : DecCfg) (t : Ty) (c : TLV) (cs : List TLV) :
    decElems cfg t (c :: cs)
      = (decTy cfg t c).bind fun v => (decElems cfg t cs).map (v :: ·) := by
  rw [decElems]; cases decTy cfg t c <;> rfl

theorem decElems_cons_ok {cfg : DecCfg} {t : Ty} {c : TLV} {cs : List TLV} {ws : List Val} :
    decElems cfg t (c :: cs) = .ok ws ↔
      ∃ v, decTy cfg t c = .ok v ∧ ∃ vs, decElems cfg t cs = .ok vs ∧ v :: vs = ws := by
  simp only [decElems_cons, Res.bind_eq_ok, Res.map_eq_ok]

theorem decSet_cons (cfg : DecCfg) (fs : Fields) (c : TLV) (cs : List TLV) (acc : List Val) :
    decSet cfg fs (c :: cs) acc
      = (decMember cfg fs 0 c).bind fun r => decSet cfg fs cs (setAt acc r.1 r.2) := by
  rw [decSet]; cases decMember cfg fs 0 c <;> rfl

theorem decBody_set (cfg : DecCfg) (fs : Fields) (hd : Bytes) (tg : Tag) (i : Bool)
    (cs : List TLV) :
    decBody cfg (.set fs) (.cons hd tg i cs)
      = (decSet cfg fs cs (defaultsOf fs)).bind fun vs =>
          if allPresent fs vs then .ok (.seq vs) else .error .malformed := by
  rw [decBody]; cases decSet cfg fs cs (defaultsOf fs) <;> rfl

theorem decAlt_eq_member (cfg : DecCfg) : ∀ (fs : Fields) (i : Nat) (x : TLV),
    decAlt cfg fs i x = (decMember cfg fs i x).map fun r => .choice r.1 r.2
  | .nil => fun _ _ => by rw [decAlt, decMember]; rfl
  | .cons _ t rest => fun i x => by
    rw [decAlt, decMember, decAlt_eq_member cfg rest]
    split
    · cases decTy cfg t x <;> rfl
    · rfl

/-- what the SEQUENCE decoder enters for a member it finds no element for -/
def FKind.fill : FKind → Option Val
  | .req => none
  | .opt => some .absent
  | .dflt d => some d

theorem defaultsOf_cons (k : FKind) (t : Ty) (r : Fields) :
    defaultsOf (.cons k t r) = k.fill.getD .absent :: defaultsOf r := by
  cases k <;> rfl

theorem decFields_take (cfg : DecCfg) {k : FKind} {t : Ty} (rest : Fields) {c : TLV}
    (cs : List TLV) (h : k = .req ∨ t.accepts c.tag = true) :
    decFields cfg (.cons k t rest) (c :: cs)
      = (decTy cfg t c).bind fun v => (decFields cfg rest cs).map (v :: ·) := by
  cases k with
  | req => rw [decFields]; cases decTy cfg t c <;> rfl
  | opt => rw [decFields, if_pos (h.resolve_left nofun)]; cases decTy cfg t c <;> rfl
  | dflt d => rw [decFields, if_pos (h.resolve_left nofun)]; cases decTy cfg t c <;> rfl

theorem decFields_fill (cfg : DecCfg) {k : FKind} {t : Ty} (rest : Fields) {cs : List TLV}
    {d : Val} (hk : k.fill = some d) (h : ∀ c cs', cs = c :: cs' → t.accepts c.tag = false) :
    decFields cfg (.cons k t rest) cs = (decFields cfg rest cs).map (d :: ·) := by
  cases k with
  | req => cases hk
  | opt =>
    cases hk
    cases cs with
    | nil => rw [decFields]
    | cons c cs => rw [decFields, if_neg (by simp [h c cs rfl])]
  | dflt d =>
    cases hk
    cases cs with
    | nil => rw [decFields]
    | cons c cs => rw [decFields, if_neg (by simp [h c cs rfl])]

theorem decFields_cons_ok {cfg : DecCfg} {k : FKind} {t : Ty} {rest : Fields} {cs : List TLV}
    {ws : List Val} :
    decFields cfg (.cons k t rest) cs = .ok ws ↔
      (∃ c cs' v vs, cs = c :: cs' ∧ (k = .req ∨ t.accepts c.tag = true) ∧
        decTy cfg t c = .ok v ∧ decFields cfg rest cs' = .ok vs ∧ v :: vs = ws) ∨
      (∃ d vs, k.fill = some d ∧ (∀ c cs', cs = c :: cs' → t.accepts c.tag = false) ∧
        decFields cfg rest cs = .ok vs ∧ d :: vs = ws) := by
  by_cases h : ∃ c cs', cs = c :: cs' ∧ (k = .req ∨ t.accepts c.tag = true)
  · obtain ⟨c, cs', rfl, h⟩ := h
    rw [decFields_take cfg rest cs' h, Res.bind_eq_ok]
    simp only [Res.map_eq_ok]
    constructor
    · rintro ⟨v, hv, vs, hvs, rfl⟩
      exact .inl ⟨c, cs', v, vs, rfl, h, hv, hvs, rfl⟩
    · rintro (⟨_, _, v, vs, hc, _, hv, hvs, rfl⟩ | ⟨d, _, hk, hn, _⟩)
      · cases hc; exact ⟨v, hv, vs, hvs, rfl⟩
      · rcases h with rfl | h
        · cases hk
        · rw [hn c cs' rfl] at h; cases h
  · have hn : ∀ c cs', cs = c :: cs' → k ≠ .req ∧ t.accepts c.tag = false := fun c cs' hc =>
      ⟨fun hk => h ⟨c, cs', hc, .inl hk⟩, by
        cases ha : t.accepts c.tag
        · rfl
        · exact (h ⟨c, cs', hc, .inr ha⟩).elim⟩
    cases hk : k.fill with
    | none =>
      cases k <;> cases hk
      cases cs with
      | nil => simp [decFields]
      | cons c cs' => exact ((hn c cs' rfl).1 rfl).elim
    | some d =>
      rw [decFields_fill cfg rest hk fun c cs' hc => (hn c cs' hc).2, Res.map_eq_ok]
      constructor
      · rintro ⟨vs, hvs, rfl⟩
        exact .inr ⟨d, vs, rfl, fun c cs' hc => (hn c cs' hc).2, hvs, rfl⟩
      · rintro (⟨c, cs', _, _, hc, hh, _⟩ | ⟨d', vs, hd', _, hvs, rfl⟩)
        · exact (h ⟨c, cs', hc, hh⟩).elim
        · cases hd'; exact ⟨vs, hvs, rfl⟩

theorem decodeOne_ok {cfg : DecCfg} {t : Ty} {bs : Bytes} {v : Val} {rest : Bytes} :
    decodeOne cfg t bs = .ok (v, rest) ↔
      ∃ x, parseOne cfg.parse bs = .ok (x, rest) ∧ decTy cfg t x = .ok v := by
  unfold decodeOne
  cases parseOne cfg.parse bs with
  | error e => simp
  | ok p =>
    obtain ⟨x, r⟩ := p
    rw [Res.map_eq_ok]
    constructor
    · rintro ⟨w, hw, he⟩; cases he; exact ⟨x, rfl, hw⟩
    · rintro ⟨_, hx, hw⟩; cases hx; exact ⟨v, hw, rfl⟩

theorem decodeOne_ser (dcfg : DecCfg) (t : Ty) (x : TLV) (tail : Bytes) (hw : x.WF)
    (ho : x.okFor dcfg.parse) : decodeOne dcfg t (x.ser ++ tail) = (decTy dcfg t x).map (·, tail) := by
  unfold decodeOne
  rw [parseOne_ser dcfg.parse x tail hw ho]

end Asn1
