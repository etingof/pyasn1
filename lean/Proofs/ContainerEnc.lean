/-
  Proofs.ContainerEnc — the encoders reading an OBJECT factor through its abstract content:
  `encodeObj cfg st = encItem cfg {} ty v` whenever `abs st = some v` (C04 `encodeObj_factors_seqOf/_seq/_choice`),
  for SEQUENCE OF / SET OF, SEQUENCE / SET with declared fields, and CHOICE; then what follows for
  SET OF INTEGER members in any order, and for a DEFAULT component set explicitly.
-/
import Asn1.Container
import Proofs.ContainerSeqOf
import Proofs.ContainerSort
import Proofs.ContainerRec
import Proofs.ContainerChoice

namespace Asn1.Container

theorem normOpts_ifNotEmpty (cfg : EncCfg) : (normOpts cfg {}).ifNotEmpty = false := rfl

theorem absList_rep (typed : Bool) (s : ListSpec.St) :
    SeqOf.absList (ListSpec.rep typed s) = s.bind ListSpec.allSet := by
  cases s with
  | none => rfl
  | some l =>
    simp only [ListSpec.rep, SeqOf.absList, enumFrom_length, dlen_enumFrom0, beq_self_eq_true, if_true,
      dcomponents_enumFrom, allVals_map_comp, Option.bind_some]

theorem abs_rep (typed : Bool) (s : ListSpec.St) :
    SeqOf.abs (ListSpec.rep typed s) = ListSpec.abs s := by
  unfold SeqOf.abs ListSpec.abs
  rw [absList_rep]
  cases s <;> rfl

theorem map_int_items (cfg : EncCfg) (o : EncOpts) (zs : List Int) :
    (zs.map Val.int).map (fun v => finishItem cfg o (.prim .integer) (encValue cfg o (.prim .integer) v)) =
      zs.map (fun z => finishItem cfg o (.prim .integer) (encValue cfg o (.prim .integer) (.int z))) := by
  rw [List.map_map]; rfl

/-- **C04, SEQUENCE OF / SET OF**: the object's encoding is the codec model's encoding of its
    abstract content (on the canonical representation of a prototype state that is a list) -/
theorem seqOf_encodeObj_factors (cfg : EncCfg) (typed isSet : Bool) (l : List (Option Int))
    (zs : List Int) (h : ListSpec.allSet l = some zs) :
    SeqOf.encodeObj cfg typed isSet (ListSpec.rep typed (some l)) =
      encItem cfg {} (SeqOf.ty isSet) (.seqOf (zs.map .int)) := by
  unfold SeqOf.encodeObj encItem
  rw [iter_rep (some l)]
  simp only [Option.getD_some, Option.bind_some, allVals_map_comp, h]
  cases isSet with
  | false =>
    simp only [SeqOf.ty, Bool.false_eq_true, if_false, Bool.false_and]
    dsimp only [encValue]
    simp only [Bool.false_and, Bool.false_eq_true, if_false, normOpts_ifNotEmpty, Bool.and_false, map_int_items]
    rfl
  | true =>
    simp only [SeqOf.ty, if_true, Bool.true_and]
    dsimp only [encValue]
    simp only [map_int_items]
    rfl

/-- a schema object (no component list) is encoded like the empty value -/
theorem seqOf_encodeObj_schema (cfg : EncCfg) (typed isSet : Bool) :
    SeqOf.encodeObj cfg typed isSet ⟨none⟩ = SeqOf.encodeObj cfg typed isSet ⟨some []⟩ := rfl

theorem val_int_beq (a b : Int) : (Val.int a == Val.int b) = (a == b) := by
  show Val.beq (Val.int a) (Val.int b) = (a == b)
  rfl

theorem skip_req (v : Val) : skipField FKind.req v = false := by
  cases v <;> rfl

theorem skip_opt_int (z : Int) : skipField FKind.opt (Val.int z) = false := rfl
theorem skip_opt_absent : skipField FKind.opt Val.absent = true := rfl
theorem skip_dflt (d z : Int) : skipField (FKind.dflt (Val.int d)) (Val.int z) = (z == d) := by
  simp [skipField, val_int_beq]

theorem objFields_cons (cfg : EncCfg) (o : EncOpts) (k : Nat) (fk : FK) (fks : List FK) (cs : List Comp) :
    Rec.objFields cfg o k (fk :: fks) cs =
      match Rec.encSlot fk (cs.headD .hole) with
      | none => Rec.objFields cfg o (k + 1) fks cs.tail
      | some (.error e) => .error e
      | some (.ok z) =>
        let o' := if cfg.seqOmitEmpty then { o with ifNotEmpty := (Rec.fkOf fk).isOpt } else o
        match finishItem cfg o' (Rec.fieldTy k) (encValue cfg o' (Rec.fieldTy k) (.int z)) with
        | .error e => .error e
        | .ok b => (Rec.objFields cfg o' (k + 1) fks cs.tail).map (b ++ ·) := rfl

theorem objSetMembers_cons (cfg : EncCfg) (o : EncOpts) (ord : SetOrder) (k : Nat) (fk : FK) (fks : List FK)
    (cs : List Comp) :
    Rec.objSetMembers cfg o ord k (fk :: fks) cs =
      match Rec.encSlot fk (cs.headD .hole) with
      | none => Rec.objSetMembers cfg o ord (k + 1) fks cs.tail
      | some (.error e) => .error e
      | some (.ok z) =>
        let o' := { o with ifNotEmpty := (Rec.fkOf fk).isOpt }
        match finishItem cfg o' (Rec.fieldTy k) (encValue cfg o' (Rec.fieldTy k) (.int z)) with
        | .error e => .error e
        | .ok b => (Rec.objSetMembers cfg o ord (k + 1) fks cs.tail).map ((setKey ord (Rec.fieldTy k) (.int z), b) :: ·) := rfl

/-- what the abstraction of one slot says about how the encoder treats it -/
theorem slot_cases (fk : FK) (c : Comp) (v : Val) (h : Rec.absField fk c = some v) :
    (Rec.encSlot fk c = none ∧ skipField (Rec.fkOf fk) v = true) ∨
    (∃ z, Rec.encSlot fk c = some (.ok z) ∧ v = .int z ∧ skipField (Rec.fkOf fk) v = false) := by
  cases fk with
  | req =>
    cases c with
    | val z => cases h; exact .inr ⟨z, rfl, rfl, skip_req _⟩
    | hole | ph => cases h
  | opt =>
    cases c with
    | val z => cases h; exact .inr ⟨z, rfl, rfl, rfl⟩
    | hole | ph => cases h; exact .inl ⟨rfl, rfl⟩
  | dflt d =>
    cases c with
    | val z =>
      cases h
      by_cases hzd : z = d
      · exact .inl ⟨if_pos hzd, (skip_dflt d z).trans (beq_iff_eq.mpr hzd)⟩
      · exact .inr ⟨z, if_neg hzd, rfl, (skip_dflt d z).trans (beq_eq_false_iff_ne.mpr hzd)⟩
    | hole => cases h; exact .inl ⟨rfl, (skip_dflt d d).trans (beq_self_eq_true d)⟩
    | ph => cases h

theorem absFields_cons_some {fk : FK} {fks : List FK} {cs : List Comp} {vs : List Val}
    (h : Rec.absFields (fk :: fks) cs = some vs) :
    ∃ v vs', Rec.absField fk (cs.headD .hole) = some v ∧ Rec.absFields fks cs.tail = some vs' ∧ vs = v :: vs' := by
  rw [absFields_cons] at h
  cases hv : Rec.absField fk (cs.headD .hole) with
  | none => rw [hv] at h; cases h
  | some v =>
    cases hr : Rec.absFields fks cs.tail with
    | none => rw [hv, hr] at h; cases h
    | some vs' => rw [hv, hr] at h; cases h; exact ⟨v, vs', rfl, rfl, rfl⟩

/-- `SequenceEncoder` over the object's slots = the codec model over the abstract members -/
theorem objFields_eq (cfg : EncCfg) (o : EncOpts) (k : Nat) (fks : List FK) (cs : List Comp) (vs : List Val)
    (h : Rec.absFields fks cs = some vs) :
    Rec.objFields cfg o k fks cs = encFields cfg o (Rec.fieldsFrom k fks) vs := by
  induction fks generalizing k cs vs o with
  | nil => cases h; rfl
  | cons fk fks ih =>
    obtain ⟨v, vs', hv, hrest, rfl⟩ := absFields_cons_some h
    rw [objFields_cons]
    dsimp only [Rec.fieldsFrom, encFields]
    rcases slot_cases fk _ v hv with ⟨h1, h2⟩ | ⟨z, h1, rfl, h3⟩
    · simp only [h1, h2, if_true]
      exact ih o (k + 1) _ vs' hrest
    · simp only [h1, h3, Bool.false_eq_true, if_false]
      cases finishItem cfg _ (Rec.fieldTy k) (encValue cfg _ (Rec.fieldTy k) (Val.int z)) with
      | error e => rfl
      | ok b => simp only; rw [ih _ (k + 1) _ vs' hrest]

/-- the same for the CER/DER SET encoder's (sort key, encoding) list -/
theorem objSetMembers_eq (cfg : EncCfg) (o : EncOpts) (ord : SetOrder) (k : Nat) (fks : List FK)
    (cs : List Comp) (vs : List Val) (h : Rec.absFields fks cs = some vs) :
    Rec.objSetMembers cfg o ord k fks cs = encSetMembers cfg o ord (Rec.fieldsFrom k fks) vs := by
  induction fks generalizing k cs vs with
  | nil => cases h; rfl
  | cons fk fks ih =>
    obtain ⟨v, vs', hv, hrest, rfl⟩ := absFields_cons_some h
    have ih' := ih (k + 1) _ vs' hrest
    rw [objSetMembers_cons]
    dsimp only [Rec.fieldsFrom, encSetMembers]
    rcases slot_cases fk _ v hv with ⟨h1, h2⟩ | ⟨z, h1, rfl, h3⟩
    · simp only [h1, h2, if_true, ih']
    · simp only [h1, h3, Bool.false_eq_true, if_false, ih']
      rfl

/-- **C04, SEQUENCE / SET with declared fields** -/
theorem rec_encodeObj_factors (cfg : EncCfg) (isSet : Bool) (fields : List FK) (hN : fields.length ≠ 0)
    (st : RecSt) (v : Val) (h : Rec.abs fields st = some v) :
    Rec.encodeObj cfg isSet fields st = encItem cfg {} (Rec.ty isSet fields st) v := by
  unfold Rec.abs at h
  cases hc : st.comps with
  | none => rw [hc] at h; cases h
  | some l =>
    simp only [hc, if_pos hN] at h
    obtain ⟨vs, hvs, rfl⟩ := Option.map_eq_some_iff.mp h
    unfold Rec.encodeObj encItem
    simp only [hc, Option.getD_some, if_pos hN, Rec.ty]
    cases isSet with
    | false =>
      simp only [Bool.false_eq_true, if_false]
      dsimp only [encValue]
      rw [objFields_eq cfg _ 0 fields l vs hvs]
    | true =>
      simp only [if_true]
      dsimp only [encValue]
      cases hord : cfg.setOrder with
      | declared => simp only [objFields_eq cfg _ 0 fields l vs hvs]
      | static => simp only [objSetMembers_eq cfg _ .static 0 fields l vs hvs]; rfl
      | dynamic => simp only [objSetMembers_eq cfg _ .dynamic 0 fields l vs hvs]; rfl

/-- records with the same abstract content get the same octets, from every encoder: with declared
    fields the type does not depend on the state either -/
theorem rec_encodeObj_congr (cfg : EncCfg) (isSet : Bool) (fields : List FK) (hN : fields.length ≠ 0)
    (st₁ st₂ : RecSt) (v : Val) (h₁ : Rec.abs fields st₁ = some v) (h₂ : Rec.abs fields st₂ = some v) :
    Rec.encodeObj cfg isSet fields st₁ = Rec.encodeObj cfg isSet fields st₂ := by
  rw [rec_encodeObj_factors cfg isSet fields hN st₁ v h₁, rec_encodeObj_factors cfg isSet fields hN st₂ v h₂]
  simp only [Rec.ty, if_pos hN]

theorem encAlt_altsFrom (cfg : EncCfg) (o : EncOpts) (j n k : Nat) (v : Val) :
    encAlt cfg o (Choice.altsFrom j n) k v =
      if k < n then finishItem cfg o (Rec.fieldTy (j + k)) (encValue cfg o (Rec.fieldTy (j + k)) v)
      else .error .refused := by
  induction n generalizing j k with
  | zero => exact (if_neg (Nat.not_lt_zero k)).symm
  | succ n ih =>
    cases k with
    | zero => exact (if_pos (Nat.succ_pos n)).symm
    | succ k =>
      dsimp only [Choice.altsFrom, encAlt]
      rw [ih (j + 1) k, Nat.add_assoc j 1 k, Nat.add_comm 1 k]
      simp only [Nat.add_lt_add_iff_right]

/-- **C04, CHOICE** -/
theorem choice_encodeObj_factors (cfg : EncCfg) (n : Nat) (st : ChoiceSt) (v : Val)
    (h : Choice.abs st = some v) :
    Choice.encodeObj cfg n st = encItem cfg {} (Choice.ty n) v := by
  unfold Choice.abs at h
  split at h
  · next k z hcur hch =>
    cases h
    dsimp only [Choice.encodeObj, encItem, Choice.ty, encValue]
    simp only [hcur, hch, encAlt_altsFrom, Nat.zero_add]
    split <;> rfl
  · cases h

def intTag : Tag := ⟨.universal, false, 2⟩

/-- the element encoding in closed form -/
def intChunk (z : Int) : Except Err Bytes :=
  match encodeLength (intToBytes z).length with
  | some l => .ok (encodeTag intTag false ++ l ++ intToBytes z)
  | none => .error .refused

/-- an INTEGER element fails in one way only: its length cannot be written -/
theorem intChunk_error {z : Int} {e : Err} (h : intChunk z = .error e) : e = .refused := by
  unfold intChunk at h
  cases hl : encodeLength (intToBytes z).length <;> rw [hl] at h <;> cases h
  rfl

theorem intChunk_framed (z : Int) (c : Bytes) (h : intChunk z = .ok c) : Framed (encodeTag intTag false) c := by
  unfold intChunk at h
  cases hl : encodeLength (intToBytes z).length with
  | none => rw [hl] at h; cases h
  | some l =>
    rw [hl] at h
    cases h
    exact ⟨_, l, intToBytes z, hl, rfl, rfl⟩

/-- the complete encoding of one INTEGER element: identifier, definite length, contents — in every
    configuration (a primitive encoding never uses the indefinite form) -/
theorem intItem_eq (cfg : EncCfg) (o : EncOpts) (z : Int) :
    finishItem cfg o (.prim .integer) (encValue cfg o (.prim .integer) (.int z)) = intChunk z := by
  dsimp only [encValue, finishItem, Ty.tags, PrimTy.univNum, wrapTags, encLen, intChunk]
  simp only [List.isEmpty_cons, Bool.false_eq_true, if_false, Bool.and_false, Bool.false_and, Bool.and_true,
    Bool.not_false]
  cases h : encodeLength (intToBytes z).length <;> simp [intTag]

theorem intItem_framed (cfg : EncCfg) (o : EncOpts) (z : Int) (c : Bytes)
    (h : finishItem cfg o (.prim .integer) (encValue cfg o (.prim .integer) (.int z)) = .ok c) :
    Framed (encodeTag intTag false) c :=
  intChunk_framed z c (intItem_eq cfg o z ▸ h)

theorem intItem_shape (cfg : EncCfg) (o : EncOpts) (z : Int) :
    (∃ c, finishItem cfg o (.prim .integer) (encValue cfg o (.prim .integer) (.int z)) = .ok c) ∨
    finishItem cfg o (.prim .integer) (encValue cfg o (.prim .integer) (.int z)) = .error .refused := by
  rw [intItem_eq]
  cases h : intChunk z with
  | ok c => exact .inl ⟨c, rfl⟩
  | error e => exact .inr (congrArg Except.error (intChunk_error h))

theorem allOk_cons_ok {α} (a : α) (rest : List (Except Err α)) :
    allOk (.ok a :: rest) = (allOk rest).map (a :: ·) := rfl

theorem allOk_cons_err {α} (e : Err) (rest : List (Except Err α)) : allOk (.error e :: rest) = .error e := rfl

theorem allOk_ok_cons {α} {a : α} {rest : List (Except Err α)} {cs : List α}
    (h : allOk (.ok a :: rest) = .ok cs) : ∃ cs0, allOk rest = .ok cs0 ∧ cs = a :: cs0 := by
  rw [allOk_cons_ok] at h
  cases hr : allOk rest with
  | error e => rw [hr] at h; cases h
  | ok cs0 => rw [hr] at h; cases h; exact ⟨cs0, rfl, rfl⟩

theorem allOk_perm {α} {l l' : List (Except Err α)} (p : l.Perm l') {cs : List α} (h : allOk l = .ok cs) :
    ∃ cs', allOk l' = .ok cs' ∧ cs.Perm cs' := by
  induction p generalizing cs with
  | nil => exact ⟨cs, h, .refl _⟩
  | cons x _ ih =>
    cases x with
    | error e => cases h
    | ok a =>
      obtain ⟨cs0, h0, rfl⟩ := allOk_ok_cons h
      obtain ⟨cs', h', p'⟩ := ih h0
      exact ⟨a :: cs', by rw [allOk_cons_ok, h']; rfl, p'.cons a⟩
  | swap x y l =>
    cases y with
    | error e => cases h
    | ok b =>
      obtain ⟨cs0, h0, rfl⟩ := allOk_ok_cons h
      cases x with
      | error e => cases h0
      | ok a =>
        obtain ⟨cs1, h1, rfl⟩ := allOk_ok_cons h0
        exact ⟨a :: b :: cs1, by rw [allOk_cons_ok, allOk_cons_ok, h1]; rfl, .swap a b cs1⟩
  | trans _ _ ih1 ih2 =>
    obtain ⟨c1, h1, p1⟩ := ih1 h
    obtain ⟨c2, h2, p2⟩ := ih2 h1
    exact ⟨c2, h2, p1.trans p2⟩

theorem allOk_error {α} {e0 : Err} {l : List (Except Err α)} (hl : ∀ x ∈ l, ∀ e, x = .error e → e = e0)
    {e : Err} (h : allOk l = .error e) : e = e0 := by
  induction l with
  | nil => cases h
  | cons x l ih =>
    cases x with
    | error e' => cases h; exact hl _ List.mem_cons_self _ rfl
    | ok a =>
      rw [allOk_cons_ok] at h
      cases hr : allOk l with
      | ok cs => rw [hr] at h; cases h
      | error e' => rw [hr] at h; cases h; exact ih (fun x hx => hl x (List.mem_cons_of_mem _ hx)) hr

theorem allOk_mem {α β} {f : α → Except Err β} {zs : List α} {cs : List β}
    (h : allOk (zs.map f) = .ok cs) : ∀ c ∈ cs, ∃ z, f z = .ok c := by
  induction zs generalizing cs with
  | nil => cases h; nofun
  | cons z zs ih =>
    rw [List.map_cons] at h
    cases hz : f z with
    | error e => rw [hz] at h; cases h
    | ok a =>
      rw [hz] at h
      obtain ⟨cs0, h0, rfl⟩ := allOk_ok_cons h
      intro c hc
      rcases List.mem_cons.mp hc with rfl | hc
      · exact ⟨z, hz⟩
      · exact ih h0 c hc

theorem encValue_setOf_int (cfg : EncCfg) (o : EncOpts) (zs : List Int) :
    encValue cfg o (.setOf (.prim .integer)) (.seqOf (zs.map .int)) =
      (allOk (zs.map intChunk)).map
        (fun cs => ((if cfg.sortSetOf then sortSetOfChunks cs else cs).flatten, true)) := by
  dsimp only [encValue]
  simp only [List.map_map]
  congr 2
  apply List.map_congr_left
  intro z _
  exact intItem_eq cfg { o with ifNotEmpty := false } z

/-- **SET OF members in any order give the same bytes** whenever the encoder sorts (CER, DER):
    the codec model's encoding of a SET OF INTEGER depends on the multiset of members only -/
theorem setOf_int_perm (cfg : EncCfg) (hsort : cfg.sortSetOf = true) {zs zs' : List Int} (p : zs.Perm zs') :
    encItem cfg {} (.setOf (.prim .integer)) (.seqOf (zs.map .int)) =
      encItem cfg {} (.setOf (.prim .integer)) (.seqOf (zs'.map .int)) := by
  unfold encItem
  simp only [encValue_setOf_int, hsort, if_true]
  have hp := p.map intChunk
  have herr : ∀ zs : List Int, ∀ x ∈ zs.map intChunk, ∀ e, x = .error e → e = .refused :=
    fun zs => List.forall_mem_map.mpr fun z _ e h => intChunk_error h
  cases hA : allOk (zs.map intChunk) with
  | ok cs =>
    obtain ⟨cs', hB, pc⟩ := allOk_perm hp hA
    have hfr : ∀ c ∈ cs, Framed (encodeTag intTag false) c := fun c hc => by
      obtain ⟨z, hz⟩ := allOk_mem hA c hc
      exact intChunk_framed z c hz
    rw [hB]
    simp only [Except.map]
    rw [sortSetOfChunks_perm pc (framed_padInj _ cs hfr)]
  | error e =>
    cases hB : allOk (zs'.map intChunk) with
    | ok cs' =>
      obtain ⟨cs, hA', _⟩ := allOk_perm hp.symm hB
      rw [hA] at hA'; cases hA'
    | error e' => rw [allOk_error (herr zs) hA, allOk_error (herr zs') hB]

theorem seqOf_encodeObj_perm (cfg : EncCfg) (hsort : cfg.sortSetOf = true) (typed : Bool)
    {l₁ l₂ : List (Option Int)} {zs₁ zs₂ : List Int}
    (h₁ : ListSpec.allSet l₁ = some zs₁) (h₂ : ListSpec.allSet l₂ = some zs₂) (p : zs₁.Perm zs₂) :
    SeqOf.encodeObj cfg typed true (ListSpec.rep typed (some l₁)) =
      SeqOf.encodeObj cfg typed true (ListSpec.rep typed (some l₂)) := by
  rw [seqOf_encodeObj_factors cfg typed true l₁ zs₁ h₁, seqOf_encodeObj_factors cfg typed true l₂ zs₂ h₂]
  exact setOf_int_perm cfg hsort p

theorem absFields_default (fks : List FK) (l : List Comp) (k : Nat) (d : Int)
    (hk : fks[k]? = some (FK.dflt d)) (hl : k < l.length) :
    Rec.absFields fks (l.set k (.val d)) = Rec.absFields fks (l.set k .hole) := by
  induction fks generalizing l k with
  | nil => rfl
  | cons fk fks ih =>
    cases l with
    | nil => simp at hl
    | cons c t =>
      cases k with
      | zero =>
        simp only [List.getElem?_cons_zero, Option.some.injEq] at hk
        subst hk
        rfl
      | succ k =>
        simp only [List.getElem?_cons_succ] at hk
        simp only [List.set_cons_succ]
        rw [absFields_cons, absFields_cons]
        simp only [List.headD_cons, List.tail_cons]
        rw [ih t k hk (by simpa using hl)]

end Asn1.Container
