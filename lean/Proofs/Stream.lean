/-
  Proofs.Stream — generic theorems about decoder programs over the stream layer (DESIGN §4.2).
  `Kind.Stable` holds of K3 and K4 and fails for BytesIO, whose end-of-stream fast path is final only on
  complete data (Props/C05).
-/
import Asn1.Stream

namespace Asn1.Stream

variable {ε α β : Type}

/-! `run` at the four primitives that branch.  (`simp only [run]` offers all ten equations of `run` at
every use and is several times slower than rewriting with the one that applies.) -/

theorem run_read (k : Kind) (B : Nat) (d : Bytes) (cl : Bool) (n : Nat) (f : Bytes → Prog ε α) (s : St ε) :
    run k B d cl (.read n f) s =
      match readAns k d cl s.pos n with
      | .ok b => run k B d cl (f b) { s with pos := s.pos + n }
      | .wait => .susp (.read n f) s
      | .eos => .err .eos s := by
  conv => lhs; unfold run
  rfl

theorem run_readAll (k : Kind) (B : Nat) (d : Bytes) (cl : Bool) (c : Bool) (f : Bytes → Prog ε α)
    (s : St ε) :
    run k B d cl (.readAll c f) s =
      match readAllAns k d cl s.pos with
      | .ok b => run k B d cl (f b) { s with pos := s.pos + b.length }
      | .wait => .susp (.readAll c f) s
      | .eos => if c then run k B d cl (f []) s else .err .eos s := by
  conv => lhs; unfold run
  rfl

theorem run_eos (k : Kind) (B : Nat) (d : Bytes) (cl : Bool) (f : Bool → Prog ε α) (s : St ε) :
    run k B d cl (.eos f) s =
      match eosAns k d cl s.pos with
      | .ok b => run k B d cl (f b) s
      | .wait => .susp (.eos f) s
      | .eos => .err .eos s := by
  conv => lhs; unfold run
  rfl

theorem run_seekBack (k : Kind) (B : Nat) (d : Bytes) (cl : Bool) (n : Nat) (p : Prog ε α) (s : St ε) :
    run k B d cl (.seekBack n p) s =
      if n ≤ s.pos - s.base then run k B d cl p { s with pos := s.pos - n } else .err .leak s := by
  conv => lhs; unfold run

theorem run_bind (k : Kind) (B : Nat) (d : Bytes) (cl : Bool) (p : Prog ε α) (g : α → Prog ε β)
    (s : St ε) :
    run k B d cl (p.bind g) s =
      match run k B d cl p s with
      | .done a s' => run k B d cl (g a) s'
      | .err e s' => .err e s'
      | .susp p' s' => .susp (p'.bind g) s' := by
  induction p generalizing s with
  | pure a => rfl
  | fail e => rfl
  | emit x p ih => exact ih _
  | read n f ih =>
    dsimp only [Prog.bind]
    rw [run_read, run_read]
    cases readAns k d cl s.pos n with
    | ok b => exact ih b _
    | wait => rfl
    | eos => rfl
  | readAll c f ih =>
    dsimp only [Prog.bind]
    rw [run_readAll, run_readAll]
    cases readAllAns k d cl s.pos with
    | ok b => exact ih b _
    | wait => rfl
    | eos =>
      cases c with
      | true => exact ih _ _
      | false => rfl
  | eos f ih =>
    dsimp only [Prog.bind]
    rw [run_eos, run_eos]
    cases eosAns k d cl s.pos with
    | ok b => exact ih b _
    | wait => rfl
    | eos => rfl
  | tell f ih => exact ih _ _
  | seekBack n p ih =>
    dsimp only [Prog.bind]
    rw [run_seekBack, run_seekBack]
    split
    · exact ih _
    · rfl
  | mark p ih => exact ih _
  | toMark f ih => exact ih _ _

theorem run_bind_done {k : Kind} {B : Nat} {d : Bytes} {cl : Bool} {p : Prog ε α} {s s' : St ε} {a : α}
    (h : run k B d cl p s = .done a s') (g : α → Prog ε β) :
    run k B d cl (p.bind g) s = run k B d cl (g a) s' := by
  rw [run_bind, h]

theorem isOpen_iff {k : Kind} {cl : Bool} : k.isOpen cl = true ↔ cl = false ∧ k ≠ .bytesIO := by
  cases k <;> cases cl <;> simp [Kind.isOpen]

theorem readAns_of_le {k : Kind} {d : Bytes} {cl : Bool} {pos n : Nat} (h : pos + n ≤ d.length) :
    readAns k d cl pos n = .ok ((d.drop pos).take n) :=
  if_pos h

theorem readAns_of_lt {k : Kind} {d : Bytes} {cl : Bool} {pos n : Nat} (h : d.length < pos + n) :
    readAns k d cl pos n = if k.isOpen cl then .wait else .eos :=
  if_neg (Nat.not_le.mpr h)

/-- every answer a primitive gives while the stream is still open is final: the same answer
    comes back when more octets have arrived and/or the stream has been closed -/
structure Kind.Stable (k : Kind) : Prop where
  read : ∀ (a c : Bytes) (cl : Bool) (pos n : Nat),
    readAns k a false pos n ≠ .wait → readAns k (a ++ c) cl pos n = readAns k a false pos n
  eos : ∀ (a c : Bytes) (cl : Bool) (pos : Nat),
    eosAns k a false pos ≠ .wait → eosAns k (a ++ c) cl pos = eosAns k a false pos

/-- `readFromStream(s, n)` on a stream that can still grow: it answers only when all n octets are there -/
theorem stable_read_open (k : Kind) (hk : k ≠ .bytesIO) (a c : Bytes) (cl : Bool) (pos n : Nat)
    (h : readAns k a false pos n ≠ .wait) :
    readAns k (a ++ c) cl pos n = readAns k a false pos n := by
  by_cases hl : pos + n ≤ a.length
  · rw [readAns_of_le hl, readAns_of_le (by rw [List.length_append]; exact Nat.le_add_right_of_le hl),
      List.drop_append_of_le_length (Nat.le_trans (Nat.le_add_right ..) hl),
      List.take_append_of_le_length (by rw [List.length_drop]; exact Nat.le_sub_of_add_le' hl)]
  · rw [readAns_of_lt (Nat.lt_of_not_le hl), if_pos (isOpen_iff.mpr ⟨rfl, hk⟩)] at h
    exact absurd rfl h

/-- `isEndOfStream` generic path: read(1) -> None is reported as underrun, never as an answer -/
theorem stable_eos_open (k : Kind) (hk : k ≠ .bytesIO) (a c : Bytes) (cl : Bool) (pos : Nat)
    (h : eosAns k a false pos ≠ .wait) :
    eosAns k (a ++ c) cl pos = eosAns k a false pos := by
  cases k with
  | bytesIO => exact absurd rfl hk
  | seekable | wrapped =>
    simp only [eosAns] at h ⊢
    by_cases hl : pos < a.length
    · have : pos < (a ++ c).length := by rw [List.length_append]; exact Nat.lt_add_right _ hl
      rw [if_pos this, if_pos hl]
    · simp [hl] at h

theorem Kind.stable_of_ne {k : Kind} (hk : k ≠ .bytesIO) : k.Stable :=
  ⟨stable_read_open k hk, stable_eos_open k hk⟩

/-- K3: a seekable stream that grows -/
theorem stable_seekable : Kind.Stable .seekable := Kind.stable_of_ne (by decide)

/-- K4: a non-seekable stream behind CachingStreamWrapper -/
theorem stable_wrapped : Kind.Stable .wrapped := Kind.stable_of_ne (by decide)

/-- `readFromStream(s)` (size = -1) returns whatever is there: on a seekable stream its answer changes
    when more data arrives -/
theorem readAll_unstable :
    readAllAns .seekable [1] false 0 = .ok [1] ∧ readAllAns .seekable ([1] ++ [2]) true 0 = .ok [1, 2] := by
  decide

def Prog.NoReadAll : Prog ε α → Prop
  | .pure _ => True
  | .fail _ => True
  | .emit _ p => p.NoReadAll
  | .read _ f => ∀ b, (f b).NoReadAll
  | .readAll _ _ => False
  | .eos f => ∀ b, (f b).NoReadAll
  | .tell f => ∀ n, (f n).NoReadAll
  | .seekBack _ p => p.NoReadAll
  | .mark p => p.NoReadAll
  | .toMark f => ∀ n, (f n).NoReadAll

theorem noReadAll_bind (p : Prog ε α) (g : α → Prog ε β) (hp : p.NoReadAll)
    (hg : ∀ a, (g a).NoReadAll) : (p.bind g).NoReadAll := by
  induction p with
  | pure a => exact hg a
  | fail => trivial
  | readAll => exact hp.elim
  | emit _ _ ih | seekBack _ _ ih | mark _ ih => exact ih hp
  | read _ _ ih | eos _ ih | tell _ ih | toMark _ ih => intro b; exact ih b (hp b)

/-! ### an underrun is reported only while octets are missing -/

theorem readAns_wait {k : Kind} {d : Bytes} {cl : Bool} {pos n : Nat}
    (h : readAns k d cl pos n = .wait) : d.length < pos + n ∧ cl = false ∧ k ≠ .bytesIO := by
  unfold readAns at h
  split at h
  · exact nomatch h
  next hl =>
    split at h
    next ho => exact ⟨Nat.lt_of_not_le hl, isOpen_iff.mp ho⟩
    next => exact nomatch h

theorem readAllAns_wait {k : Kind} {d : Bytes} {cl : Bool} {pos : Nat}
    (h : readAllAns k d cl pos = .wait) : d.length < pos + 1 ∧ cl = false ∧ k ≠ .bytesIO := by
  unfold readAllAns at h
  split at h
  · exact nomatch h
  next hl =>
    split at h
    next ho => exact ⟨Nat.lt_succ_of_le (Nat.le_of_not_lt hl), isOpen_iff.mp ho⟩
    next => exact nomatch h

theorem eosAns_wait {k : Kind} {d : Bytes} {cl : Bool} {pos : Nat}
    (h : eosAns k d cl pos = .wait) : d.length < pos + 1 ∧ cl = false ∧ k ≠ .bytesIO := by
  cases k with
  | bytesIO => exact nomatch h
  | seekable | wrapped =>
    simp only [eosAns] at h
    split at h
    · exact nomatch h
    next hl =>
      cases cl with
      | true => exact nomatch h
      | false => exact ⟨Nat.lt_succ_of_le (Nat.le_of_not_lt hl), rfl, nofun⟩

/-- what a run suspends on is a part of the program, namely a primitive that answered "no data yet":
    it needs an octet that has not arrived, on a stream that is still open -/
theorem susp_inv (k : Kind) (B : Nat) (d : Bytes) (cl : Bool) (p : Prog ε α) (s : St ε)
    (p' : Prog ε α) (s' : St ε) (h : run k B d cl p s = .susp p' s') :
    (p.NoReadAll → p'.NoReadAll) ∧ d.length < p'.needs s' ∧ cl = false ∧ k ≠ .bytesIO := by
  induction p generalizing s with
  | pure | fail => exact nomatch h
  | emit _ _ ih | mark _ ih => exact ih _ h
  | tell _ ih | toMark _ ih => exact (ih _ _ h).imp_left fun hn hp => hn (hp _)
  | read n f ih =>
    rw [run_read] at h
    split at h
    next b _ => exact (ih b _ h).imp_left fun hn hp => hn (hp b)
    next hr =>
      obtain ⟨rfl, rfl⟩ := Out.susp.inj h
      exact ⟨id, readAns_wait hr⟩
    next => exact nomatch h
  | readAll c f ih =>
    rw [run_readAll] at h
    split at h
    next b _ => exact (ih b _ h).imp_left fun _ hp => hp.elim
    next hr =>
      obtain ⟨rfl, rfl⟩ := Out.susp.inj h
      exact ⟨id, readAllAns_wait hr⟩
    next =>
      split at h
      · exact (ih _ _ h).imp_left fun _ hp => hp.elim
      · exact nomatch h
  | eos f ih =>
    rw [run_eos] at h
    split at h
    next b _ => exact (ih b _ h).imp_left fun hn hp => hn (hp b)
    next hr =>
      obtain ⟨rfl, rfl⟩ := Out.susp.inj h
      exact ⟨id, eosAns_wait hr⟩
    next => exact nomatch h
  | seekBack n p ih =>
    rw [run_seekBack] at h
    split at h
    · exact ih _ h
    · exact nomatch h

/-- running on more data (open or closed) agrees with first running on less data
    while the stream is open and then resuming the suspended program -/
theorem run_resume (k : Kind) (hk : k.Stable) (B : Nat) (a c : Bytes) (cl : Bool) (p : Prog ε α)
    (hp : p.NoReadAll) (s : St ε) :
    run k B (a ++ c) cl p s =
      match run k B a false p s with
      | .susp p' s' => run k B (a ++ c) cl p' s'
      | .done v s' => .done v s'
      | .err e s' => .err e s' := by
  induction p generalizing s with
  | pure | fail => rfl
  | emit _ _ ih | mark _ ih => exact ih hp _
  | tell _ ih | toMark _ ih => exact ih _ (hp _) _
  | read n f ih =>
    rw [run_read, run_read]
    cases hr : readAns k a false s.pos n with
    | wait => exact (run_read ..).symm
    | ok b => rw [hk.read a c cl s.pos n (by rw [hr]; nofun), hr]; exact ih b (hp b) _
    | eos => rw [hk.read a c cl s.pos n (by rw [hr]; nofun), hr]
  | readAll c' f _ => exact hp.elim
  | eos f ih =>
    rw [run_eos, run_eos]
    cases hr : eosAns k a false s.pos with
    | wait => exact (run_eos ..).symm
    | ok b => rw [hk.eos a c cl s.pos (by rw [hr]; nofun), hr]; exact ih b (hp b) _
    | eos => rw [hk.eos a c cl s.pos (by rw [hr]; nofun), hr]
  | seekBack n p ih =>
    rw [run_seekBack, run_seekBack]
    split
    · exact ih hp _
    · rfl

theorem runSched_eq (k : Kind) (hk : k.Stable) (B : Nat) (cs : List Bytes) :
    ∀ (a : Bytes) (p : Prog ε α) (s : St ε), p.NoReadAll →
      runSched k B a cs p s = run k B (a ++ cs.flatten) true p s := by
  induction cs with
  | nil => intro a p s _; simp [runSched]
  | cons c cs ih =>
    intro a p s hp
    have h := run_resume k hk B a (c ++ cs.flatten) true p hp s
    simp only [List.flatten_cons, runSched]
    rw [h]
    cases hr : run k B a false p s with
    | done v q => simp
    | err e q => simp
    | susp p' s' =>
      simp only
      rw [ih _ _ _ ((susp_inv k B a false p s p' s' hr).1 hp)]
      simp [List.append_assoc]

theorem runSchedAll_last (k : Kind) (B : Nat) (cs : List Bytes) :
    ∀ (a : Bytes) (p : Prog ε α) (s : St ε),
      ∃ pre, runSchedAll k B a cs p s = pre ++ [runSched k B a cs p s] ∧
        ∀ o ∈ pre, ∃ p' s', o = .susp p' s' := by
  induction cs with
  | nil => intro a p s; exact ⟨[], by simp [runSchedAll, runSched], by simp⟩
  | cons c cs ih =>
    intro a p s
    simp only [runSchedAll, runSched]
    cases hr : run k B a false p s with
    | done v q => exact ⟨[], by simp, by simp⟩
    | err e q => exact ⟨[], by simp, by simp⟩
    | susp p' s' =>
      obtain ⟨pre, h1, h2⟩ := ih (a ++ c) p' s'
      refine ⟨.susp p' s' :: pre, by simp [h1], ?_⟩
      intro o ho
      rcases List.mem_cons.mp ho with rfl | ho
      · exact ⟨p', s', rfl⟩
      · exact h2 o ho

end Asn1.Stream
