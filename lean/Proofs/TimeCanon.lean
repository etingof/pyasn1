/-
  Proofs.TimeCanon — the CER/DER time canonicaliser: structure of its output, refusals, and
  preservation of the X.680 instant when the fraction has no zero before a non-zero digit.
-/
import Proofs.TimeDigits

namespace Asn1.Time

theorem takeWhile_append_stop {p : Char → Bool} {a : List Char} (ha : ∀ x ∈ a, p x = true) {c : Char}
    (hc : p c = false) (b : List Char) : (a ++ c :: b).takeWhile p = a := by
  rw [List.takeWhile_append_of_pos ha, List.takeWhile_cons_of_neg (by rw [hc]; decide), List.append_nil]

theorem dropWhile_append_stop {p : Char → Bool} {a : List Char} (ha : ∀ x ∈ a, p x = true) {c : Char}
    (hc : p c = false) (b : List Char) : (a ++ c :: b).dropWhile p = c :: b := by
  rw [List.dropWhile_append_of_pos ha, List.dropWhile_cons_of_neg (by rw [hc]; decide)]

theorem exists_last_split {c : Char} {s : List Char} (h : c ∈ s) :
    ∃ pre post, s = pre ++ c :: post ∧ c ∉ post := by
  induction s with
  | nil => cases h
  | cons x r ih =>
    by_cases hr : c ∈ r
    · obtain ⟨pre, post, e, hp⟩ := ih hr
      exact ⟨x :: pre, post, by simp [e], hp⟩
    · rcases List.mem_cons.mp h with h | h
      · subst h; exact ⟨[], r, rfl, hr⟩
      · exact absurd h hr

theorem split_unique {c : Char} {a b a' b' : List Char} (ha : c ∉ a) (hb : c ∉ b)
    (e : a ++ c :: b = a' ++ c :: b') : a = a' ∧ b = b' := by
  induction a generalizing a' with
  | nil =>
    cases a' with
    | nil => exact ⟨rfl, (List.cons.inj e).2⟩
    | cons x r =>
      have e2 : b = r ++ c :: b' := (List.cons.inj e).2
      exact absurd (e2 ▸ List.mem_append_right r List.mem_cons_self) hb
  | cons y t ih =>
    cases a' with
    | nil =>
      have e1 : y = c := (List.cons.inj e).1
      exact absurd (e1 ▸ List.mem_cons_self) ha
    | cons x r =>
      obtain ⟨e1, e2⟩ := List.cons.inj e
      obtain ⟨h1, h2⟩ := ih (fun m => ha (List.mem_cons_of_mem _ m)) e2
      exact ⟨by rw [e1, h1], h2⟩

theorem stripFraction_split (pre post : List Char) (hp : '.' ∉ post) :
    stripFraction (pre ++ '.' :: post)
      = if (post.filter (· ≠ '0')).head? = some 'Z' then pre ++ post.filter (· ≠ '0')
        else pre ++ '.' :: post.filter (· ≠ '0') := by
  have hrev : (pre ++ '.' :: post).reverse = post.reverse ++ '.' :: pre.reverse := by simp
  have hall : ∀ x ∈ post.reverse, (decide (x ≠ '.')) = true := by
    intro x hx
    have : x ∈ post := List.mem_reverse.mp hx
    simp; intro e; exact hp (e ▸ this)
  have hstop : (decide ('.' ≠ '.')) = false := by simp
  unfold stripFraction
  simp only [hrev, takeWhile_append_stop hall hstop, dropWhile_append_stop hall hstop, List.reverse_reverse,
    List.drop_one, List.tail_cons]

theorem mem_of_mem_stripFraction {s : List Char} (hd : '.' ∈ s) {x : Char} (m : x ∈ stripFraction s) : x ∈ s := by
  obtain ⟨pre, post, rfl, hp⟩ := exists_last_split hd
  rw [stripFraction_split pre post hp] at m
  split at m
  · rcases List.mem_append.mp m with m | m
    · exact List.mem_append_left _ m
    · exact List.mem_append_right _ (List.mem_cons_of_mem _ (List.mem_filter.mp m).1)
  · rcases List.mem_append.mp m with m | m
    · exact List.mem_append_left _ m
    · rcases List.mem_cons.mp m with m | m
      · rw [m]; exact hd
      · exact List.mem_append_right _ (List.mem_cons_of_mem _ (List.mem_filter.mp m).1)

/-- what `canonTime` demands of its input and how its output is made -/
theorem canonTime_ok {k : Kind} {s s' : List Char} (h : canonTime k s = .ok s') :
    '+' ∉ s ∧ '-' ∉ s ∧ s.getLast? = some 'Z' ∧ ',' ∉ s
      ∧ s' = (if '.' ∈ s then stripFraction s else s) ∧ k.minLength < s'.length ∧ s'.length < k.maxLength := by
  unfold canonTime at h
  by_cases hs : '+' ∈ s ∨ '-' ∈ s
  · simp [hs] at h
  · rw [if_neg hs] at h
    cases hl : s.getLast? with
    | none => simp [hl] at h
    | some l =>
      simp only [hl] at h
      by_cases hz : l ≠ 'Z'
      · simp [hz] at h
      · rw [if_neg hz] at h
        by_cases hc : ',' ∈ s
        · simp [hc] at h
        · rw [if_neg hc] at h
          by_cases hlen : k.minLength < (if '.' ∈ s then stripFraction s else s).length
              ∧ (if '.' ∈ s then stripFraction s else s).length < k.maxLength
          · rw [if_pos hlen] at h
            have e : (if '.' ∈ s then stripFraction s else s) = s' := by injection h
            have hz' : l = 'Z' := by simpa using hz
            refine ⟨fun m => hs (Or.inl m), fun m => hs (Or.inr m), by rw [hz'], hc, e.symm, ?_, ?_⟩
            · rw [← e]; exact hlen.1
            · rw [← e]; exact hlen.2
          · rw [if_neg hlen] at h; cases h

/-- non-UTC values are refused: an offset sign anywhere, or no final `Z` -/
theorem canonTime_refuses_sign (k : Kind) {s : List Char} (h : '+' ∈ s ∨ '-' ∈ s) :
    canonTime k s = .error .liberr := by
  simp [canonTime, h]

theorem canonTime_refuses_noZ (k : Kind) {s : List Char} (hne : s ≠ []) (h : s.getLast? ≠ some 'Z') :
    canonTime k s = .error .liberr := by
  cases hl : s.getLast? with
  | none => exact absurd (List.getLast?_eq_none_iff.mp hl) hne
  | some l =>
    have hz : l ≠ 'Z' := fun e => h (by rw [hl, e])
    simp only [canonTime, hl, hz, ne_eq, not_false_eq_true, if_true, ite_self]

/-- The canonical form of a text with one decimal point: the input is `pre ++ '.' :: (q ++ ['Z'])`, the output
    `pre ++ D ++ F ++ ['Z']` with `F` the non-zero characters of `q` and `D` the point, which goes when `F` is
    empty (or begins with a `Z`). -/
theorem canonTime_dot_form {k : Kind} {s s' : List Char} (h : canonTime k s = .ok s') (hd : '.' ∈ s)
    (h1 : s.count '.' ≤ 1) :
    ∃ pre q D F, s = pre ++ '.' :: (q ++ ['Z']) ∧ '.' ∉ pre ∧ '.' ∉ q ∧ F = q.filter (· ≠ '0')
      ∧ (D = [] ∨ (D = ['.'] ∧ F ≠ [])) ∧ s' = pre ++ (D ++ (F ++ ['Z'])) := by
  obtain ⟨_, _, hz, _, e, _, _⟩ := canonTime_ok h
  rw [if_pos hd] at e
  obtain ⟨pre, post, es, hpost⟩ := exists_last_split hd
  have hpre : '.' ∉ pre := by
    intro m
    have := List.count_pos_iff.mpr m
    rw [es, List.count_append, List.count_cons_self] at h1
    omega
  obtain ⟨q, rfl⟩ : ∃ q, post = q ++ ['Z'] := by
    rw [es, List.getLast?_append, List.getLast?_cons, Option.some_or, Option.some.injEq] at hz
    cases hl : post.getLast? with
    | none => rw [hl] at hz; exact absurd hz (by decide)
    | some x => rw [hl] at hz; exact List.getLast?_eq_some_iff.mp (hl.trans (congrArg some hz))
  have hfilt : (q ++ ['Z']).filter (· ≠ '0') = q.filter (· ≠ '0') ++ ['Z'] := by rw [List.filter_append]; rfl
  refine ⟨pre, q, if (q.filter (· ≠ '0') ++ ['Z']).head? = some 'Z' then [] else ['.'], _, es, hpre,
    fun m => hpost (List.mem_append_left _ m), rfl, ?_, ?_⟩
  · split
    · exact .inl rfl
    · rename_i hh
      exact .inr ⟨rfl, fun e0 => hh (by rw [e0]; rfl)⟩
  · rw [e, es, stripFraction_split pre _ hpost, hfilt]
    split <;> rfl

theorem canonTime_shape {k : Kind} {s s' : List Char} (h : canonTime k s = .ok s') (h1 : s.count '.' ≤ 1) :
    s'.getLast? = some 'Z' ∧ ',' ∉ s' ∧ '+' ∉ s' ∧ '-' ∉ s'
      ∧ (∀ pre frac, s' = pre ++ '.' :: (frac ++ ['Z']) → frac ≠ [] ∧ '0' ∉ frac) := by
  obtain ⟨hp, hm, hz, hc, e, _, _⟩ := canonTime_ok h
  have hsub : ∀ x ∈ s', x ∈ s := by
    intro x m
    rw [e] at m
    split at m
    · exact mem_of_mem_stripFraction ‹_› m
    · exact m
  refine ⟨?_, fun m => hc (hsub _ m), fun m => hp (hsub _ m), fun m => hm (hsub _ m), ?_⟩
  · by_cases hd : '.' ∈ s
    · obtain ⟨pre0, q, D, F, _, _, _, _, _, rfl⟩ := canonTime_dot_form h hd h1
      rw [← List.append_assoc, ← List.append_assoc]; exact List.getLast?_concat
    · rw [e, if_neg hd]; exact hz
  · intro pre frac e'
    have hd : '.' ∈ s := hsub _ (e' ▸ (by simp))
    obtain ⟨pre0, q, D, F, _, hpre, hq, rfl, hD, rfl⟩ := canonTime_dot_form h hd h1
    have hFd : '.' ∉ q.filter (· ≠ '0') ++ ['Z'] := by
      intro m
      rcases List.mem_append.mp m with m | m
      · exact hq (List.mem_filter.mp m).1
      · simp at m
    rcases hD with rfl | ⟨rfl, hne⟩
    · -- the dot was deleted: no decimal point is left
      have hin : '.' ∈ pre0 ++ ([] ++ (q.filter (· ≠ '0') ++ ['Z'])) := e' ▸ (by simp)
      rcases List.mem_append.mp hin with m | m
      · exact absurd m hpre
      · exact absurd m hFd
    · obtain ⟨_, e2⟩ := split_unique hpre hFd e'
      rw [← List.append_cancel_right e2]
      exact ⟨hne, fun m => by simpa using (List.mem_filter.mp m).2⟩

theorem normDec_mul (n s k : Nat) : normDec (n * 10 ^ k) (s + k) = normDec n s := by
  induction k with
  | zero => simp
  | succ k ih =>
    have h1 : n * 10 ^ (k + 1) % 10 = 0 := by rw [Nat.pow_succ, ← Nat.mul_assoc]; exact Nat.mul_mod_left _ _
    have h2 : n * 10 ^ (k + 1) / 10 = n * 10 ^ k := by
      rw [Nat.pow_succ, ← Nat.mul_assoc]; exact Nat.mul_div_cancel _ (by decide)
    rw [show s + (k + 1) = (s + k) + 1 from rfl, normDec, if_pos h1, h2, ih]

theorem digitsVal_zeros (acc k : Nat) : digitsVal acc (List.replicate k '0') = acc * 10 ^ k := by
  induction k generalizing acc with
  | zero => simp [digitsVal]
  | succ k ih =>
    rw [List.replicate_succ, digitsVal, show dv '0' = some 0 by decide, ih]
    simp [Nat.pow_succ]; rw [Nat.mul_assoc, Nat.mul_comm 10]

theorem todOf_zeros (base unit : Nat) (f : List Char) (k : Nat) :
    todOf base unit (f ++ List.replicate k '0') = todOf base unit f := by
  unfold todOf
  rw [digitsVal_append, digitsVal_zeros, List.length_append, List.length_replicate, ← normDec_mul _ f.length k]
  congr 1
  rw [Nat.pow_add, Nat.add_mul, Nat.mul_assoc, Nat.mul_assoc]

theorem readMain_zeros (kd : Kind) (m f : List Char) (k : Nat) (off : Option Int) :
    readMain kd m (f ++ List.replicate k '0') off = readMain kd m f off := by
  simp only [readMain, todOf_zeros]

theorem allDig_of {s : List Char} (h : AllDig s) : allDig s = true := by
  simp only [allDig, List.all_eq_true]; exact h

theorem readZone_Z (k : Kind) (body : List Char) : readZone k (body ++ ['Z']) = some (body, some 0) := by
  simp [readZone]

theorem readFrac_dot {k : Kind} (hgt : isGT k = true) {main F : List Char} (hm : AllDig main)
    (hF : AllDig F) (hne : F ≠ []) : readFrac k (main ++ '.' :: F) = some (main, F) := by
  have hin : '.' ∈ main ++ '.' :: F := by simp
  have hall : ∀ x ∈ main, notMark x = true := by
    intro x hx
    have h1 : x ≠ '.' := isDig_ne (hm x hx) (by decide)
    have h2 : x ≠ ',' := isDig_ne (hm x hx) (by decide)
    simp [notMark, h1, h2]
  have hstop : notMark '.' = false := by decide
  simp only [readFrac, hin, true_or, if_true, hgt, not_true_eq_false, if_false,
    takeWhile_append_stop hall hstop, dropWhile_append_stop hall hstop, List.drop_one, List.tail_cons,
    allDig_of hF]
  simp [hne]

theorem readFrac_none (k : Kind) {main : List Char} (hm : AllDig main) : readFrac k main = some (main, []) := by
  have h1 : '.' ∉ main := hm.not_mem (by decide)
  have h2 : ',' ∉ main := hm.not_mem (by decide)
  simp [readFrac, h1, h2]

theorem instant_dot {k : Kind} (hgt : isGT k = true) {main F : List Char} (hm : AllDig main)
    (hF : AllDig F) (hne : F ≠ []) :
    instant k (main ++ '.' :: (F ++ ['Z'])) = readMain k main F (some 0) := by
  have e : main ++ '.' :: (F ++ ['Z']) = (main ++ '.' :: F) ++ ['Z'] := by simp
  rw [e, instant, readZone_Z]
  simp only [readFrac_dot hgt hm hF hne]

theorem instant_nodot (k : Kind) {main : List Char} (hm : AllDig main) :
    instant k (main ++ ['Z']) = readMain k main [] (some 0) := by
  rw [instant, readZone_Z]
  simp only [readFrac_none k hm]

theorem filter_nonzero_self {f : List Char} (h0 : '0' ∉ f) : f.filter (· ≠ '0') = f := by
  rw [List.filter_eq_self]
  intro x hx
  simp; intro e; exact h0 (e ▸ hx)

/-- the canonical form of a UTC value whose fraction is `f` followed by `n` zeros, `f` free of zeros -/
theorem canonTime_trailing {k : Kind} {main f : List Char} {n : Nat} {s' : List Char}
    (hf : AllDig f) (h0 : '0' ∉ f)
    (h : canonTime k (main ++ '.' :: (f ++ List.replicate n '0' ++ ['Z'])) = .ok s') :
    s' = if f = [] then main ++ ['Z'] else main ++ '.' :: (f ++ ['Z']) := by
  obtain ⟨_, _, _, _, e, _, _⟩ := canonTime_ok h
  have hin : '.' ∈ main ++ '.' :: (f ++ List.replicate n '0' ++ ['Z']) := by simp
  have hpost : '.' ∉ f ++ List.replicate n '0' ++ ['Z'] := by
    intro m
    rcases List.mem_append.mp m with m | m
    · rcases List.mem_append.mp m with m | m
      · exact hf.not_mem (by decide) m
      · have := List.eq_of_mem_replicate m; cases this
    · simp at m
  rw [if_pos hin, stripFraction_split _ _ hpost] at e
  have hfil : (f ++ List.replicate n '0' ++ ['Z']).filter (· ≠ '0') = f ++ ['Z'] := by
    rw [List.filter_append, List.filter_append, filter_nonzero_self h0, List.filter_replicate]; simp
  rw [hfil] at e
  cases f with
  | nil => simpa using e
  | cons c r =>
    have hc : c ≠ 'Z' := isDig_ne hf.head (by decide)
    simp [hc] at e
    simp [e]

/-- deleting the trailing zeros of the fraction, and the point when nothing is left of it, keeps the instant -/
theorem canonTime_instant {k : Kind} (hgt : isGT k = true) {main f : List Char} {n : Nat}
    {s' : List Char} (hm : AllDig main) (hf : AllDig f) (h0 : '0' ∉ f) (hne : f ≠ [] ∨ n ≠ 0)
    (h : canonTime k (main ++ '.' :: (f ++ List.replicate n '0' ++ ['Z'])) = .ok s') :
    instant k s' = instant k (main ++ '.' :: (f ++ List.replicate n '0' ++ ['Z'])) := by
  have hz : AllDig (List.replicate n '0') := by
    intro x hx; rw [List.eq_of_mem_replicate hx]; decide
  have hF : AllDig (f ++ List.replicate n '0') := hf.append hz
  have hFne : f ++ List.replicate n '0' ≠ [] := by
    rcases hne with h | h
    · simp [h]
    · cases n with
      | zero => exact absurd rfl h
      | succ n => simp [List.replicate_succ]
  rw [canonTime_trailing hf h0 h, instant_dot hgt hm hF hFne, readMain_zeros]
  by_cases e : f = []
  · rw [if_pos e, instant_nodot k hm, e]
  · rw [if_neg e, instant_dot hgt hm hf e]

theorem readMain_off {k : Kind} {m f : List Char} {off : Option Int} {i : Instant}
    (h : readMain k m f off = some i) : i.off = off := by
  simp only [readMain, Option.ite_none_left_eq_some, Option.some.injEq] at h
  obtain ⟨_, _, _, rfl⟩ := h
  rfl

theorem instant_nil (k : Kind) : instant k [] = none := by
  unfold instant readZone
  by_cases hg : isGT k = true
  · simp [hg, readFrac, readMain, allDig]
  · simp [hg]

theorem readZone_off {k : Kind} {s body : List Char} {off : Option Int}
    (h : readZone k s = some (body, off)) (ho : off ≠ some 0) : s.getLast? ≠ some 'Z' := by
  intro hz
  unfold readZone at h
  rw [if_pos hz] at h
  injection h with h
  injection h with _ h
  exact ho h.symm

/-- a value whose X.680 reading is local time or carries a non-zero offset is refused with a library error -/
theorem canonTime_refuses_nonutc {k : Kind} {s : List Char} {i : Instant}
    (h : instant k s = some i) (ho : i.off ≠ some 0) : canonTime k s = .error .liberr := by
  have hne : s ≠ [] := by
    intro e; rw [e, instant_nil] at h; cases h
  unfold instant at h
  cases hz : readZone k s with
  | none => simp [hz] at h
  | some p =>
    obtain ⟨body, off⟩ := p
    simp only [hz] at h
    cases hf : readFrac k body with
    | none => simp [hf] at h
    | some q =>
      obtain ⟨m, f⟩ := q
      simp only [hf] at h
      have := readMain_off h
      exact canonTime_refuses_noZ k hne (readZone_off hz (this ▸ ho))

end Asn1.Time
