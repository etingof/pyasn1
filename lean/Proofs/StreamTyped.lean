/-
  Proofs.StreamTyped — the typed end of the streaming theorems: the concatenation of encoder outputs is the
  serialisation of exactly the elements the encoder wrote, and each of them is read by the guided decoder as the
  value that was encoded (`encodeAll_trees`).  `Props.C05` frames such a stream under any arrival schedule.
-/
import Proofs.StreamIter
import Proofs.Codec

namespace Asn1

open Asn1.Stream

/-- the encodings of a list of values of one type -/
def encodeAll (cfg : EncCfg) (o : EncOpts) (t : Ty) : List Val → Except Err (List Bytes)
  | [] => .ok []
  | v :: vs =>
    match encItem cfg o t v with
    | .error e => .error e
    | .ok b => (encodeAll cfg o t vs).map (b :: ·)

theorem encodeAll_cons_ok {cfg : EncCfg} {o : EncOpts} {t : Ty} {v : Val} {vs : List Val} {bs : List Bytes}
    (h : encodeAll cfg o t (v :: vs) = .ok bs) :
    ∃ b bs', encItem cfg o t v = .ok b ∧ encodeAll cfg o t vs = .ok bs' ∧ bs = b :: bs' := by
  rw [encodeAll] at h
  cases he : encItem cfg o t v with
  | error e => rw [he] at h; cases h
  | ok b =>
    rw [he] at h
    cases hr : encodeAll cfg o t vs with
    | error e => rw [hr] at h; cases h
    | ok bs' => rw [hr] at h; cases h; exact ⟨b, bs', rfl, rfl, rfl⟩

/-- the trees `xs` are read, one by one, as the values `vs` up to the order of SET OF elements -/
def Decoded (dcfg : DecCfg) (t : Ty) : List Val → List TLV → Prop
  | [], [] => True
  | v :: vs, x :: xs => (∃ w, decTy dcfg t x = .ok w ∧ VEq t v w) ∧ Decoded dcfg t vs xs
  | _, _ => False

theorem encodeAll_trees (cfg : EncCfg) (dcfg : DecCfg) (pf : Profile) (o : EncOpts) (hi : o.ifNotEmpty = false)
    (hR : EncRegion cfg pf (cfg.fixedChunk.getD o.maxChunk)) (hC : Compat pf dcfg)
    (t : Ty) (hreg : t.reg true cfg (cfg.fixedDefMode.getD o.defMode) = true) (hwf : t.WF = true) :
    ∀ (vs : List Val) (bs : List Bytes), (∀ v ∈ vs, HasType t v = true ∧ noE3 cfg.seqOmitEmpty t v = true) →
      encodeAll cfg o t vs = .ok bs →
      ∃ xs : List TLV, bs.flatten = serList xs ∧ xs.length = vs.length ∧ WFs xs ∧
        (cfg.fixedDefMode.getD o.defMode = true → allDefL xs = true) ∧ Decoded dcfg t vs xs
  | [], bs, _, h => by
    cases h
    exact ⟨[], rfl, rfl, trivial, fun _ => rfl, trivial⟩
  | v :: vs, bs, hv, h => by
    obtain ⟨b, bs', he, hr, rfl⟩ := encodeAll_cons_ok h
    obtain ⟨xs, hs, hl, hw, hok, hd⟩ := encodeAll_trees cfg dcfg pf o hi hR hC t hreg hwf vs bs'
      (fun u hu => hv u (List.mem_cons_of_mem _ hu)) hr
    have hvv := hv v (List.mem_cons_self ..)
    obtain ⟨x, hb, hxw, _, hxd, hber⟩ := encItem_good cfg pf o hi hR t v b hreg hwf hvv.1 hvv.2 he
    obtain ⟨w, hdw, hvw, _⟩ := complete_ty pf dcfg hC t v x (reg_plain true cfg _ t hreg) hwf hber
    exact ⟨x :: xs, by simp [serList, hb, hs], by simp [hl], ⟨hxw, hw⟩,
      fun hp => by simp [allDefL, lenForm_allDef hxd hp, hok hp], ⟨⟨w, hdw, hvw⟩, hd⟩⟩

end Asn1
