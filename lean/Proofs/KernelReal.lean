/-
  Proofs.KernelReal — the body of `RealEncoder.encodeValue` for binary REALs (translated from the source
  into `GenK.realBin`) computes the model's `realBinToContent` for encoding base 2; the first octet the model writes
  has bit 8 set, which is what sends the decoder into its binary branch.
-/
import Proofs.KernelBase
import Proofs.RealRT

namespace Asn1.Kernels
open Py

theorem band_1 (a : Nat) : Py.band (a : Int) 1 = ((a % 2 : Nat) : Int) := band_low a 1

theorem shr_1 (a : Nat) : Py.shr (a : Int) 1 = ((a / 2 : Nat) : Int) := shr_pow a 1

/-- mantissa normalisation loop (base 2) = the model's `normOdd` -/
theorem realBin_loop1_spec : ∀ (f a : Nat) (e : Int) (fuel : Nat), a ≠ 0 → a ≤ f → a < fuel →
    GenK.realBin_loop1 fuel (a : Int) e = .ok (((normOdd f a e).1 : Int), (normOdd f a e).2)
  | 0, a, e, fuel, h0, hf, _ => by omega
  | _, _, _, 0, _, _, hfu => by omega
  | f + 1, a, e, g + 1, h0, hf, hfu => by
    rw [GenK.realBin_loop1, normOdd]
    simp only [band_1, shr_1, eq_lit, h0, ne_eq, not_false_eq_true, true_and]
    by_cases hev : a % 2 = 0
    · simp only [hev, decide_true, if_true]
      exact realBin_loop1_spec f (a / 2) (e + 1) g (by omega) (by omega) (by omega)
    · simp only [hev, decide_false, Bool.false_eq_true, if_false]
      rfl

/-- the scale-factor loop does nothing on an odd mantissa -/
theorem realBin_loop4_odd (a : Nat) (sf : Int) (fuel : Nat) (h : a % 2 = 1) :
    GenK.realBin_loop4 (fuel + 1) (a : Int) sf = .ok ((a : Int), sf) := by
  unfold GenK.realBin_loop4
  rw [band_1]
  have hc : ¬ (((a % 2 : Nat) : Int) = 0) := by omega
  simp only [hc, decide_false, Bool.false_eq_true, if_false, pure, Except.pure]

theorem realBin_loop6_spec {m fuel : Nat} {po : Py.Tup} (h : m < fuel) :
    GenK.realBin_loop6 fuel po (m : Int) = .ok (ints (be256 m) ++ po, 0) := by
  have := digitLoop 254 id GenK.realBin_loop6 (fun _ _ => rfl)
    (fun f acc m hm => by
      simp only [GenK.realBin_loop6, truthy_nat, hm, band_255, shr_8, ne_eq, not_false_eq_true,
        decide_true, if_true, id])
    m fuel po h
  rwa [List.map_id] at this

/-- `e >>= 8` comes nearer to 0 or -1, where the exponent loop stops -/
theorem natAbs_shr8_lt (e : Int) (h : ¬ (e = 0 ∨ e = -1)) : (e / 256).natAbs < e.natAbs := by omega

/-- the octets the exponent loop collects, before the sign fix-up -/
def rawDigits (e : Int) : List Int :=
  if e = 0 ∨ e = -1 then [] else rawDigits (e / 256) ++ [e % 256]
termination_by e.natAbs
decreasing_by exact natAbs_shr8_lt e ‹_›

theorem rawDigits_stop (e : Int) (h : e = 0 ∨ e = -1) : rawDigits e = [] := by
  rw [rawDigits]; simp [h]

theorem rawDigits_step (e : Int) (h0 : e ≠ 0) (h1 : e ≠ -1) : rawDigits e = rawDigits (e / 256) ++ [e % 256] := by
  rw [rawDigits]; simp [h0, h1]

theorem realBin_loop5_spec : ∀ (n : Nat) (e : Int) (fuel : Nat) (acc : Py.Tup), e.natAbs = n → n + 1 < fuel →
    GenK.realBin_loop5 fuel acc e = .ok (rawDigits e ++ acc, if e < 0 then -1 else 0) := by
  intro n
  induction n using Nat.strongRecOn with
  | _ n ih =>
    intro e fuel acc hn hf
    cases fuel with
    | zero => omega
    | succ g =>
      unfold GenK.realBin_loop5
      by_cases hs : e = 0 ∨ e = -1
      · have hm : Py.mem e [(0 : Int), (-(1 : Int))] = true := by
          rcases hs with h | h <;> subst h <;> rfl
        simp only [hm, Bool.not_true, Bool.false_eq_true, if_false, pure, Except.pure, rawDigits_stop e hs, List.nil_append]
        rcases hs with h | h <;> subst h <;> rfl
      · have h0 : e ≠ 0 := fun h => hs (Or.inl h)
        have h1 : e ≠ -1 := fun h => hs (Or.inr h)
        have hm : Py.mem e [(0 : Int), (-(1 : Int))] = false := by
          simp only [Py.mem, List.contains_cons, List.contains_nil, Bool.or_false, Bool.or_eq_false_iff, beq_eq_false_iff_ne, ne_eq]
          exact ⟨h0, h1⟩
        simp only [hm, Bool.not_false, if_true, band_255_int, shr_8_int]
        show GenK.realBin_loop5 g _ _ = _
        have hlt : (e / 256).natAbs < n := hn ▸ natAbs_shr8_lt e hs
        rw [ih _ hlt (e / 256) g _ rfl (Nat.lt_of_lt_of_le (Nat.succ_lt_succ hlt) (Nat.le_of_lt_succ hf)),
          rawDigits_step e h0 h1]
        have hsg : (e / 256 < 0) = (e < 0) := by
          apply propext; constructor <;> intro h <;> omega
        simp only [hsg, List.append_assoc]

theorem byte_emod (z : Int) : ((UInt8.ofNat (z % 256).toNat).toNat : Int) = z % 256 := by
  rw [byte_of_emod]
  exact Int.toNat_of_nonneg (Int.emod_nonneg _ (by decide))

theorem bytesInts_intToBytes_small (e : Int) (h : -128 ≤ e ∧ e < 128) : bytesInts (intToBytes e) = [e % 256] := by
  rw [intToBytes]
  simp only [h, and_self, if_true, bytesInts, List.map_cons, List.map_nil, byte_emod]

theorem bytesInts_intToBytes_big (e : Int) (h : ¬ (-128 ≤ e ∧ e < 128)) :
    bytesInts (intToBytes e) = bytesInts (intToBytes (e / 256)) ++ [e % 256] := by
  rw [intToBytes]
  simp only [h, if_false, bytesInts, List.map_append, List.map_cons, List.map_nil, byte_emod]

/-- the two sign fix-ups that follow the loop, as one function of the sign and the collected octets -/
def signFix (neg : Bool) : List Int → List Int
  | [] => []
  | h :: t => if !neg && decide (h ≥ 128) then 0 :: h :: t else if neg && decide (h < 128) then 255 :: h :: t else h :: t

theorem signFix_append (neg : Bool) (d : List Int) (x : Int) (h : d ≠ []) : signFix neg (d ++ [x]) = signFix neg d ++ [x] := by
  cases d with
  | nil => exact absurd rfl h
  | cons a t =>
    simp only [signFix, List.cons_append]
    split
    · rfl
    · split <;> rfl

theorem rawDigits_ne_nil (e : Int) (h0 : e ≠ 0) (h1 : e ≠ -1) : rawDigits e ≠ [] := by
  rw [rawDigits_step e h0 h1]; simp

/-- one collected octet: the fix-up puts the sign octet in front exactly when `intToBytes` writes two octets -/
theorem signFix_one (e : Int) (hq : e / 256 = 0 ∨ e / 256 = -1) :
    signFix (decide (e < 0)) [e % 256] = bytesInts (intToBytes e) := by
  by_cases hsmall : -128 ≤ e ∧ e < 128
  · rw [bytesInts_intToBytes_small e hsmall]
    have h1 : ¬ (0 ≤ e ∧ 128 ≤ e % 256) := by omega
    have h2 : ¬ (e < 0 ∧ e % 256 < 128) := by omega
    simp [signFix, h1, h2]
  · rw [bytesInts_intToBytes_big e hsmall]
    rcases hq with hq | hq
    · have : ¬ e < 0 ∧ e % 256 ≥ 128 := by omega
      rw [hq, bytesInts_intToBytes_small 0 (by decide)]
      simp [signFix, this]
    · have : e < 0 ∧ e % 256 < 128 := by omega
      rw [hq, bytesInts_intToBytes_small (-1) (by decide)]
      simp [signFix, this]

/-- loop + fix-ups write the minimal two's complement octets of the exponent: both peel the last octet `e % 256`
    and go on with `e / 256`; the loop runs one octet further, down to 0 or -1, and the fix-up puts that octet back
    when it is needed for the sign -/
theorem signFix_raw (n : Nat) (e : Int) (h : e.natAbs = n) :
    e ≠ 0 → e ≠ -1 → signFix (decide (e < 0)) (rawDigits e) = bytesInts (intToBytes e) := by
  clear h
  fun_induction rawDigits e with
  | case1 e hs => intro h0 h1; exact absurd hs (by omega)
  | case2 e hs ih =>
    intro _ _
    by_cases hq : e / 256 = 0 ∨ e / 256 = -1
    · rw [rawDigits_stop _ hq]; exact signFix_one e hq
    · have hq0 : e / 256 ≠ 0 := fun h => hq (Or.inl h)
      have hq1 : e / 256 ≠ -1 := fun h => hq (Or.inr h)
      have hsg : decide (e < 0) = decide (e / 256 < 0) := decide_eq_decide.mpr (by omega)
      rw [signFix_append _ _ _ (rawDigits_ne_nil _ hq0 hq1), hsg, ih hq0 hq1,
        bytesInts_intToBytes_big e (by omega)]

def liftReal : Option Bytes → Py.M Py.Tup
  | some b => .ok (bytesInts b)
  | none => .error (.lib "PyAsn1Error")

theorem rawDigits_range (n : Nat) (e : Int) (h : e.natAbs = n) : ∀ x ∈ rawDigits e, 0 ≤ x ∧ x < 256 := by
  clear h
  fun_induction rawDigits e with
  | case1 e hs => intro x hx; cases hx
  | case2 e hs ih =>
    intro x hx
    rcases List.mem_append.mp hx with hx | hx
    · exact ih x hx
    · obtain rfl := List.mem_singleton.mp hx
      exact ⟨Int.emod_nonneg _ (by decide), Int.emod_lt_of_pos _ (by decide)⟩

theorem truthy_band_128 (h : Int) (h0 : 0 ≤ h) (h1 : h < 256) : Py.truthy (Py.band h 128) = decide (h ≥ 128) := by
  obtain ⟨k, rfl⟩ := Int.eq_ofNat_of_zero_le h0
  rw [band_128_truthy k (by omega)]
  exact decide_eq_decide.mpr (by omega)

/-- from `heq : <exponent block> = R` to `hR : ∃ s, R = ok (minimal two's complement octets of eo, s)` -/
macro "exp_block" heq:ident eo:ident : tactic => `(tactic| (
  rw [← $heq]
  by_cases hs : $eo = 0 ∨ $eo = -1
  · rcases hs with h | h
    · subst h
      exact ⟨0, by rw [bytesInts_intToBytes_small 0 (by decide)]; simp [band_255_int]⟩
    · subst h
      exact ⟨-1, by rw [bytesInts_intToBytes_small (-1) (by decide)]; simp [band_255_int]⟩
  · have h0 : $eo ≠ 0 := fun h => hs (Or.inl h)
    have h1 : $eo ≠ -1 := fun h => hs (Or.inr h)
    have hb : (decide ($eo = 0) || decide ($eo = -1)) = false := by simp [h0, h1]
    obtain ⟨h, t, hd⟩ := List.exists_cons_of_ne_nil (rawDigits_ne_nil $eo h0 h1)
    have hrange := rawDigits_range _ $eo rfl h (by rw [hd]; simp)
    have hsf := signFix_raw _ $eo rfl h0 h1
    rw [hd] at hsf
    simp only [hb, Bool.false_eq_true, if_false, realBin_loop5_spec _ $eo (($eo).natAbs + 2) [] rfl (by omega), hd,
      List.append_nil, List.isEmpty_cons, Bool.not_false, if_true, idx_cons_zero, truthy_band_128 h hrange.1 hrange.2]
    by_cases hneg : $eo < 0
    · by_cases hh : h ≥ 128
      · have hh' : ¬ h < 128 := by omega
        simp [hneg, hh, hh', signFix, idx_cons_zero, truthy_band_128 h hrange.1 hrange.2] at hsf ⊢
        first | exact hsf | exact ⟨_, by rw [hsf]⟩
      · have hh' : h < 128 := by omega
        simp [hneg, hh, hh', signFix, idx_cons_zero, truthy_band_128 h hrange.1 hrange.2] at hsf ⊢
        first | exact hsf | exact ⟨_, by rw [hsf]⟩
    · by_cases hh : h ≥ 128
      · have hh' : ¬ h < 128 := by omega
        simp [hneg, hh, hh', signFix, idx_cons_zero, truthy_band_128 h hrange.1 hrange.2] at hsf ⊢
        first | exact hsf | exact ⟨_, by rw [hsf]⟩
      · have hh' : h < 128 := by omega
        simp [hneg, hh, hh', signFix, idx_cons_zero, truthy_band_128 h hrange.1 hrange.2] at hsf ⊢
        first | exact hsf | exact ⟨_, by rw [hsf]⟩))

/-- the exponent-length bits of the first octet (its two low bits are free): 0, 1, 2 for one to three exponent
    octets; 3, and the count in an octet of its own, beyond -/
theorem expLen_bits (fo : Nat) (h4 : fo % 2 ^ 2 = 0) (hfo : fo + 3 < 256) (B : Bytes) (hB : ¬ 255 < B.length) :
    (if B.length = 1 then ((fo : Int), bytesInts B) else if B.length = 2 then (Py.bor fo 1, bytesInts B)
      else if B.length = 3 then (Py.bor fo 2, bytesInts B)
      else (Py.bor fo 3, [Py.band (B.length : Int) 255] ++ bytesInts B)) =
    Prod.map (fun n : Nat => ((UInt8.ofNat n).toNat : Int)) bytesInts
      (if B.length = 1 then (fo, B) else if B.length = 2 then (fo + 1, B) else if B.length = 3 then (fo + 2, B)
        else (fo + 3, UInt8.ofNat B.length :: B)) := by
  have hk : ∀ k : Nat, k < 2 ^ 2 → Py.bor (fo : Int) (k : Int) = ((UInt8.ofNat (fo + k)).toNat : Int) :=
    fun k hk => by rw [bor_low fo k 2 h4 hk, toNat_ofNat_lt _ (by omega)]
  by_cases h1 : B.length = 1
  · rw [if_pos h1, if_pos h1, Prod.map_apply, toNat_ofNat_lt fo (by omega)]
  · rw [if_neg h1, if_neg h1]
    by_cases h2 : B.length = 2
    · rw [if_pos h2, if_pos h2, show Py.bor (fo : Int) 1 = _ from hk 1 (by decide)]; rfl
    · rw [if_neg h2, if_neg h2]
      by_cases h3 : B.length = 3
      · rw [if_pos h3, if_pos h3, show Py.bor (fo : Int) 2 = _ from hk 2 (by decide)]; rfl
      · rw [if_neg h3, if_neg h3, show Py.bor (fo : Int) 3 = _ from hk 3 (by decide), band_255, Nat.mod_eq_of_lt (by omega), Prod.map_apply, bytesInts_cons,
          toNat_ofNat_lt B.length (by omega)]
        rfl

theorem realBin_kernel (m e : Int) (hm : m ≠ 0) :
    GenK.realBin (if m < 0 then -1 else 1) (m.natAbs : Int) 2 e = liftReal (realBinToContent m e) := by
  have ha : m.natAbs ≠ 0 := by omega
  have hl1 := realBin_loop1_spec m.natAbs m.natAbs e (m.natAbs + 1) ha (Nat.le_refl _) (by omega)
  have hodd := normOdd_odd m.natAbs m.natAbs e ha (Nat.le_refl _)
  unfold realBinToContent
  rw [if_neg hm]
  unfold GenK.realBin
  generalize hno : normOdd m.natAbs m.natAbs e = no at hl1 hodd
  obtain ⟨mo, eo⟩ := no
  simp only at hl1 hodd
  -- the first octet so far: binary encoding, sign bit; its two low bits are free for the exponent length
  have hfo : (if decide ((if m < 0 then (-1 : Int) else 1) < 0) = true then (Except.ok (bor 128 64) : Py.M Int) else Except.ok 128)
      = Except.ok (((128 + if m < 0 then 64 else 0 : Nat) : Int)) := by
    by_cases hneg : m < 0 <;> simp [hneg] <;> rfl
  have hfo4 : (128 + if m < 0 then 64 else 0) % 2 ^ 2 = 0 ∧ (128 + if m < 0 then 64 else 0) + 3 < 256 := by
    split <;> decide
  simp only [decide_true, if_true, Int.toNat_natCast, hl1, bind, Except.bind, pure, Except.pure,
    realBin_loop4_odd mo 0 mo hodd, show ¬ ((0 : Int) > 3) by decide, decide_false, Bool.false_eq_true, if_false,
    realBin_loop6_spec (Nat.lt_succ_self mo), List.append_nil, show Py.shl 0 2 = 0 by rfl, hfo]
  generalize (128 + if m < 0 then 64 else 0) = fo at hfo4 ⊢
  simp only [show Py.bor (fo : Int) 0 = fo from bor_low fo 0 2 hfo4.1 (by decide)]
  generalize hR : (if (decide (eo = 0) || decide (eo = -1)) = true then _ else _ : Py.M (Py.Tup × Int)) = R
  obtain ⟨s, rfl⟩ : ∃ s, R = Except.ok (bytesInts (intToBytes eo), s) := by
    exp_block hR eo
  clear hR hfo hl1 hno
  have hnat : ints (be256 mo) = bytesInts (natToBytes mo) := (bytesInts_be256 mo).symm
  simp only [len_bytes, hnat, gt_iff_lt, lit_lt, eq_lit, ite_ok, decide_eq_true_eq]
  generalize intToBytes eo = B
  by_cases h255 : 255 < B.length
  · rw [if_pos h255, if_pos h255]; rfl
  · rw [if_neg h255, if_neg h255, expLen_bits fo hfo4.1 hfo4.2 B h255]
    generalize (if B.length = 1 then (fo, B) else _ : Nat × Bytes) = p
    simp only [liftReal, Prod.map_fst, Prod.map_snd, bytesInts_cons, bytesInts_append, List.cons_append,
      List.nil_append]

/-- the first contents octet the encoder model writes for a non-zero binary REAL has bit 8 set -/
theorem realBinToContent_head (m e : Int) (c : Bytes) (hm : m ≠ 0) (h : realBinToContent m e = some c) :
    ∃ fo rest, c = fo :: rest ∧ fo.toNat ≥ 128 := by
  unfold realBinToContent at h
  simp only [hm, if_false] at h
  generalize normOdd m.natAbs m.natAbs e = no at h
  obtain ⟨mo, eo⟩ := no
  simp only at h
  by_cases hbig : (intToBytes eo).length > 0xff
  · rw [if_pos hbig] at h; cases h
  · rw [if_neg hbig] at h
    obtain rfl := Option.some.inj h
    refine ⟨_, _, rfl, ?_⟩
    obtain ⟨k, hk, -, hp⟩ := expLenCode (0x80 + if m < 0 then 0x40 else 0) (intToBytes eo)
    have : (0x80 + if m < 0 then 0x40 else 0) ≤ 192 := by split <;> decide
    rw [hp, toNat_ofNat_lt _ (by omega)]
    omega

end Asn1.Kernels
