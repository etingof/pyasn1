/-
  Proofs.KernelChunk — the segmentation loop of `OctetStringEncoder.encodeValue` (translated from the source into
  `GenK.octetChunks`, the `encodeFun` callback being a function parameter about which nothing is assumed) cuts the
  octets into the model's `chunkBytes` pieces, hands each to the callback in order and concatenates the answers
  (a turn of the loop at `pos` is one step of `chunkBytes` on the octets from `pos` on and one of `concatM`). With the
  translated header loop as the callback it writes what the encoder model writes for an octet or character string.
-/
import Proofs.KernelWrap

namespace Asn1.Kernels
open Py

/-- the callback over the pieces, left to right, stopping at the first failure -/
def concatM (f : Py.Tup → Py.M Py.Tup) : List Py.Tup → Py.M Py.Tup
  | [] => .ok []
  | c :: cs =>
    match f c with
    | .error e => .error e
    | .ok a => (concatM f cs).map (a ++ ·)

theorem drop_take_clip {α} (l : List α) (pos n : Nat) :
    (l.drop (min pos l.length)).take (min (pos + n) l.length - min pos l.length) = (l.drop pos).take n := by
  by_cases hp : pos ≤ l.length
  · -- with `len = pos + m` the count is `min n m`, and `take` clips to the `m` elements left anyway
    obtain ⟨m, hm⟩ : ∃ m, l.length = pos + m := ⟨l.length - pos, (Nat.add_sub_cancel' hp).symm⟩
    rw [Nat.min_eq_left hp, List.take_eq_take_min (i := n), List.length_drop, hm, Nat.add_min_add_left,
      Nat.add_sub_cancel_left, Nat.add_sub_cancel_left]
  · have hp' : l.length ≤ pos := Nat.le_of_not_le hp
    rw [Nat.min_eq_right hp', List.drop_length, List.drop_eq_nil_of_le hp', List.take_nil, List.take_nil]

theorem sliceG_bytes (bs : Bytes) (pos n : Nat) :
    Py.sliceG (bytesInts bs) (pos : Int) ((pos : Int) + (n : Int)) = bytesInts ((bs.drop pos).take n) := by
  have h1 : ¬ ((pos : Int) + (n : Int) < 0) := by omega
  simp only [Py.sliceG, Py.normIdx, Int.natCast_nonneg, Int.not_lt.mpr, h1, if_false, Int.toNat_natCast,
    show ((pos : Int) + (n : Int)).toNat = pos + n from Int.toNat_natCast (pos + n)]
  rw [drop_take_clip, bytesInts_drop, bytesInts_take]

theorem octetChunks_loop1_turn (f : Py.Tup → Py.M Py.Tup) (n : Int) (octets acc : Py.Tup) (fuel : Nat) (pos : Int) :
    GenK.octetChunks_loop1 f n octets (fuel + 1) acc pos =
      if (Py.sliceG octets pos (pos + n)).isEmpty then .ok (acc, pos)
      else f (Py.sliceG octets pos (pos + n)) >>= fun a => GenK.octetChunks_loop1 f n octets fuel (acc ++ a) (pos + n) := by
  rw [GenK.octetChunks_loop1, if_pos rfl]
  show (if (!!(Py.sliceG octets pos (pos + n)).isEmpty) = true then _ else _) = _
  rw [Bool.not_not]
  rfl

theorem octetChunks_loop1_spec (f : Py.Tup → Py.M Py.Tup) (n : Nat) (hn : 0 < n) (bs : Bytes) :
    ∀ (fuel k pos : Nat) (acc : Py.Tup), bs.length - pos ≤ k → bs.length - pos < fuel →
      (GenK.octetChunks_loop1 f (n : Int) (bytesInts bs) fuel acc (pos : Int)).map (·.1) =
        (concatM f ((chunkBytes n k (bs.drop pos)).map bytesInts)).map (acc ++ ·)
  | 0, _, _, _, _, hf => by omega
  | fuel + 1, k, pos, acc, hk, hf => by
    rw [octetChunks_loop1_turn, sliceG_bytes, bytesInts_isEmpty]
    by_cases hp : pos < bs.length
    · obtain ⟨k, rfl⟩ := Nat.exists_eq_add_one_of_ne_zero
        (Nat.ne_of_gt (Nat.lt_of_lt_of_le (Nat.sub_pos_of_lt hp) hk))
      have hd : bs.drop pos ≠ [] := fun h0 => absurd (List.drop_eq_nil_iff.mp h0) (Nat.not_le.mpr hp)
      have hne : (bs.drop pos).take n ≠ [] := fun h0 => (List.take_eq_nil_iff.mp h0).elim (Nat.ne_of_gt hn) hd
      have hless : bs.length - (pos + n) < bs.length - pos := by omega
      rw [if_neg (mt List.isEmpty_iff.mp hne), chunkBytes_succ n k _ hd, List.map_cons, concatM, List.drop_drop]
      cases f (bytesInts ((bs.drop pos).take n)) with
      | error e => rfl
      | ok a =>
        show (GenK.octetChunks_loop1 f n (bytesInts bs) fuel (acc ++ a) ((pos : Int) + (n : Int))).map (·.1) = _
        rw [← Int.natCast_add, octetChunks_loop1_spec f n hn bs fuel k (pos + n) (acc ++ a)
          (Nat.le_of_lt_succ (Nat.lt_of_lt_of_le hless hk)) (Nat.lt_of_lt_of_le hless (Nat.le_of_lt_succ hf))]
        cases concatM f ((chunkBytes n k (bs.drop (pos + n))).map bytesInts) with
        | error e => rfl
        | ok r => exact congrArg Except.ok (List.append_assoc acc a r)
    · rw [List.drop_eq_nil_of_le (Nat.le_of_not_lt hp), List.take_nil, chunkBytes_nil]
      exact congrArg Except.ok (List.append_nil acc).symm

/-- **the segmentation of `OctetStringEncoder.encodeValue` as it is in the source**: without a chunk size, or when
    the octets fit one chunk, the octets themselves in primitive form; otherwise the callback's encodings of the
    consecutive `maxChunkSize`-octet pieces (the last one shorter), in order, in constructed form - whatever the
    callback is -/
theorem octetChunks_kernel (f : Py.Tup → Py.M Py.Tup) (bs : Bytes) (n : Nat) :
    GenK.octetChunks f (bytesInts bs) (n : Int) =
      if n = 0 ∨ bs.length ≤ n then .ok (bytesInts bs, false, true)
      else (concatM f ((chunkBytes n bs.length bs).map bytesInts)).map (fun r => (r, true, true)) := by
  -- `not maxChunkSize or len(substrate) <= maxChunkSize` is the model's test
  have hc : ((!(Py.truthy (n : Int))) || decide (Py.len (bytesInts bs) ≤ (n : Int))) = decide (n = 0 ∨ bs.length ≤ n) := by
    rw [len_bytes, truthy_nat, decide_not, Bool.not_not, Bool.decide_or, decide_eq_decide.mpr Int.ofNat_le]
  rw [GenK.octetChunks, hc]
  by_cases h : n = 0 ∨ bs.length ≤ n
  · rw [if_pos (decide_eq_true h), if_pos h]; rfl
  · rw [if_neg (mt of_decide_eq_true h), if_neg h]
    have hs := octetChunks_loop1_spec f n (Nat.pos_of_ne_zero fun h0 => h (Or.inl h0)) bs (bs.length + 2) bs.length 0 []
      (Nat.sub_le _ _) (Nat.lt_of_le_of_lt (Nat.sub_le _ _) (Nat.lt_add_of_pos_right (Nat.succ_pos 1)))
    rw [List.drop_zero] at hs
    -- the loop's octets are what `encodeValue` returns; its final position is dropped
    show (GenK.octetChunks_loop1 f n (bytesInts bs) ((Py.len (bytesInts bs)).toNat + 2) [] ((0 : Nat) : Int)
      >>= fun r => pure (r.1, true, true)) = _
    rw [len_bytes, Int.toNat_natCast]
    have hfst : ∀ x : Py.M (Py.Tup × Int),
        (x >>= fun r => pure (r.1, true, true)) = (x.map (·.1)).map fun r => (r, true, true) :=
      fun x => by cases x <;> rfl
    rw [hfst, hs]
    cases concatM f ((chunkBytes n bs.length bs).map bytesInts) <;> rfl

/-- for the model's `encodeValue` -/
def liftEnc : Except Err (Bytes × Bool) → Py.M (Py.Tup × Bool × Bool)
  | .ok (b, c) => .ok (bytesInts b, c, true)
  | .error _ => .error (.lib "PyAsn1Error")

theorem concatM_lift (f : Py.Tup → Py.M Py.Tup) (g : Bytes → Except Err Bytes)
    (h : ∀ c, f (bytesInts c) = liftLen (g c)) :
    ∀ l : List Bytes, concatM f (l.map bytesInts) = liftLen ((allOk (l.map g)).map List.flatten)
  | [] => rfl
  | c :: cs => by
    rw [List.map_cons, List.map_cons, concatM, h c, concatM_lift f g h cs]
    cases g c with
    | error e => rfl
    | ok a =>
      rw [allOk]
      cases allOk (cs.map g) with
      | error e => rfl
      | ok r => exact congrArg Except.ok (bytesInts_append a r.flatten).symm

/-- the callback the segmentation loop is handed, when it is the encoder itself on one piece: the translated header
    loop around primitive contents under the OCTET STRING tag -/
def chunkFun (indefOk ine defMode : Bool) (c : Py.Tup) : Py.M Py.Tup :=
  GenK.wrapTags indefOk ine [[0, 0, 4]] defMode c false true

/-- **segmentation at the source level is the model's**: the translated loop of `OctetStringEncoder.encodeValue`, with
    the translated header loop as the callback for each piece, writes what the encoder model writes for an octet or
    character string - primitive when there is no chunk size or the string fits, the OCTET STRING TLVs of the
    `maxChunkSize`-octet pieces otherwise (CER: 1000) -/
theorem octetChunks_is_model (cfg : EncCfg) (o : EncOpts) (k : Nat) (bs : Bytes) :
    GenK.octetChunks (chunkFun true o.ifNotEmpty o.defMode) (bytesInts bs) (o.maxChunk : Int) =
      liftEnc (encValue cfg o (.prim (.str k)) (.str bs)) := by
  have hf : ∀ c : Bytes, chunkFun true o.ifNotEmpty o.defMode (bytesInts c) =
      liftLen (finishItem cfg o (.prim (.str 4)) (.ok (c, false))) := by
    intro c
    have hk := wrapTags_kernel true o.ifNotEmpty o.defMode false true ⟨.universal, false, 4⟩ [] c
    simp only [List.map_cons, List.map_nil, Bool.and_false, Bool.false_and, Bool.false_eq_true, if_false] at hk
    unfold chunkFun
    rw [show ([[0, 0, 4]] : List Py.Tup) = [tagTriple ⟨.universal, false, 4⟩] from rfl, hk]
    simp [finishItem, Ty.tags, Ty.base, PrimTy.univNum, supportsIndef]
  rw [octetChunks_kernel]
  dsimp only [encValue]
  rw [← Bool.decide_or]
  by_cases h : o.maxChunk = 0 ∨ bs.length ≤ o.maxChunk
  · rw [if_pos h, if_pos (decide_eq_true h)]; rfl
  · rw [if_neg h, if_neg (mt of_decide_eq_true h), concatM_lift _ _ hf]
    cases allOk ((chunkBytes o.maxChunk bs.length bs).map fun f => finishItem cfg o (.prim (.str 4)) (.ok (f, false))) with
    | error e => rfl
    | ok r => rfl

end Asn1.Kernels
