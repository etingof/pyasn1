/-
  Proofs.TimeDigits — digit formatting and parsing lemmas for Asn1.Time:
  `'%.2d'`/`'%.4d'`/`'%d'` produce digit strings, `int()` and `digitsVal` read them back.
-/
import Asn1.Time

namespace Asn1.Time

def AllDig (s : List Char) : Prop := ∀ c ∈ s, isDig c = true

instance (s : List Char) : Decidable (AllDig s) := by unfold AllDig; infer_instance

theorem dv_dig {d : Nat} (h : d < 10) : dv (dig d) = some d :=
  (by decide : ∀ d : Fin 10, dv (dig d.val) = some d.val) ⟨d, h⟩

theorem isDig_dig {d : Nat} (h : d < 10) : isDig (dig d) = true := by
  simp [isDig, dv_dig h]

theorem isDig_range {c : Char} (h : isDig c = true) : 48 ≤ c.toNat ∧ c.toNat ≤ 57 := by
  unfold isDig dv at h
  by_cases hc : 48 ≤ c.toNat ∧ c.toNat ≤ 57
  · exact hc
  · simp [hc] at h

theorem isDig_ne {c x : Char} (h : isDig c = true) (hx : x.toNat < 48 ∨ 57 < x.toNat) : c ≠ x := by
  intro e; subst e
  have := isDig_range h
  omega

theorem isDig_not_ws {c : Char} (h : isDig c = true) : isWs c = false := by
  have := isDig_range h
  simp [isWs]; omega

theorem AllDig.nil : AllDig [] := fun _ h => nomatch h

theorem AllDig.cons {c : Char} {s : List Char} (hc : isDig c = true) (hs : AllDig s) : AllDig (c :: s) :=
  List.forall_mem_cons.mpr ⟨hc, hs⟩

theorem AllDig.append {a b : List Char} (ha : AllDig a) (hb : AllDig b) : AllDig (a ++ b) :=
  List.forall_mem_append.mpr ⟨ha, hb⟩

theorem AllDig.head {c : Char} {s : List Char} (h : AllDig (c :: s)) : isDig c = true :=
  h c (List.mem_cons_self)

theorem AllDig.tail {c : Char} {s : List Char} (h : AllDig (c :: s)) : AllDig s :=
  fun x hx => h x (List.mem_cons_of_mem _ hx)

theorem AllDig.not_mem {s : List Char} (h : AllDig s) {x : Char} (hx : x.toNat < 48 ∨ 57 < x.toNat) : x ∉ s :=
  fun hm => isDig_ne (h x hm) hx rfl

theorem dec_lt {n : Nat} (h : n < 10) : dec n = [dig n] := by
  rw [dec]; simp [h]

theorem dec_ge {n : Nat} (h : ¬ n < 10) : dec n = dec (n / 10) ++ [dig (n % 10)] := by
  rw [dec]; simp [h]

theorem allDig_dec (n : Nat) : AllDig (dec n) := by
  induction n using Nat.strongRecOn with
  | _ n ih =>
    by_cases h : n < 10
    · rw [dec_lt h]; exact AllDig.cons (isDig_dig h) AllDig.nil
    · rw [dec_ge h]
      exact AllDig.append (ih _ (by omega)) (AllDig.cons (isDig_dig (Nat.mod_lt _ (by omega))) AllDig.nil)

theorem dec_ne_nil (n : Nat) : dec n ≠ [] := by
  by_cases h : n < 10
  · rw [dec_lt h]; simp
  · rw [dec_ge h]; simp

theorem pad2_lt {n : Nat} (h : n < 100) : pad2 n = [dig (n / 10), dig (n % 10)] := by
  simp [pad2, h]

theorem pad4_lt {n : Nat} (h : n < 10000) :
    pad4 n = [dig (n / 1000), dig (n / 100 % 10), dig (n / 10 % 10), dig (n % 10)] := by
  simp [pad4, h]

theorem pad2_digits {n : Nat} (h : n < 100) :
    ∃ a b, a < 10 ∧ b < 10 ∧ a * 10 + b = n ∧ pad2 n = [dig a, dig b] :=
  ⟨n / 10, n % 10, Nat.div_lt_of_lt_mul h, Nat.mod_lt _ (by decide), Nat.div_add_mod' n 10, pad2_lt h⟩

theorem pad4_digits {n : Nat} (h : n < 10000) :
    ∃ a b c d, a < 10 ∧ b < 10 ∧ c < 10 ∧ d < 10 ∧ a * 1000 + b * 100 + c * 10 + d = n
      ∧ pad4 n = [dig a, dig b, dig c, dig d] := by
  refine ⟨n / 1000, n / 100 % 10, n / 10 % 10, n % 10, Nat.div_lt_of_lt_mul h, Nat.mod_lt _ (by decide),
    Nat.mod_lt _ (by decide), Nat.mod_lt _ (by decide), ?_, pad4_lt h⟩
  -- with the quotients as iterated divisions by ten the identity is linear in them
  rw [show n / 1000 = n / 10 / 10 / 10 by simp only [Nat.div_div_eq_div_mul],
    show n / 100 = n / 10 / 10 by simp only [Nat.div_div_eq_div_mul]]
  omega

theorem allDig_pad2 (n : Nat) : AllDig (pad2 n) := by
  by_cases h : n < 100
  · obtain ⟨a, b, ha, hb, _, e⟩ := pad2_digits h
    rw [e]; exact .cons (isDig_dig ha) (.cons (isDig_dig hb) .nil)
  · simp only [pad2, h, if_false]; exact allDig_dec n

theorem allDig_pad4 (n : Nat) : AllDig (pad4 n) := by
  by_cases h : n < 10000
  · obtain ⟨a, b, c, d, ha, hb, hc, hd, _, e⟩ := pad4_digits h
    rw [e]; exact .cons (isDig_dig ha) (.cons (isDig_dig hb) (.cons (isDig_dig hc) (.cons (isDig_dig hd) .nil)))
  · simp only [pad4, h, if_false]; exact allDig_dec n

theorem digitsVal_append (acc : Nat) (a b : List Char) :
    digitsVal acc (a ++ b) = digitsVal (digitsVal acc a) b := by
  induction a generalizing acc with
  | nil => rfl
  | cons c r ih => simp [digitsVal, ih]

theorem digitsVal_dec (n : Nat) : digitsVal 0 (dec n) = n := by
  induction n using Nat.strongRecOn with
  | _ n ih =>
    by_cases h : n < 10
    · rw [dec_lt h]; simp [digitsVal, dv_dig h]
    · rw [dec_ge h, digitsVal_append, ih _ (by omega)]
      simp [digitsVal, dv_dig (Nat.mod_lt n (by omega : 0 < 10))]
      omega

theorem digitsVal_pad2 {n : Nat} (h : n < 100) (acc : Nat) : digitsVal acc (pad2 n) = acc * 100 + n := by
  obtain ⟨a, b, ha, hb, rfl, e⟩ := pad2_digits h
  simp only [e, digitsVal, dv_dig ha, dv_dig hb, Option.getD_some]
  omega

theorem digitsVal_pad4 {n : Nat} (h : n < 10000) : digitsVal 0 (pad4 n) = n := by
  obtain ⟨a, b, c, d, ha, hb, hc, hd, rfl, e⟩ := pad4_digits h
  simp only [e, digitsVal, dv_dig ha, dv_dig hb, dv_dig hc, dv_dig hd, Option.getD_some]
  omega

theorem pyDigits_allDig {s : List Char} (hs : AllDig s) (acc : Nat) (prev : Bool)
    (hne : s ≠ [] ∨ prev = true) : pyDigits acc prev s = some (digitsVal acc s) := by
  induction s generalizing acc prev with
  | nil =>
    rcases hne with h | h
    · exact absurd rfl h
    · simp [pyDigits, digitsVal, h]
  | cons c r ih =>
    have hc := hs.head
    unfold isDig at hc
    cases hd : dv c with
    | none => simp [hd] at hc
    | some d =>
      simp only [pyDigits, hd, digitsVal, Option.getD_some]
      exact ih hs.tail _ true (Or.inr rfl)

theorem stripR_allDig {s : List Char} (hs : AllDig s) : stripR s = s := by
  induction s with
  | nil => rfl
  | cons c r ih =>
    rw [stripR, ih hs.tail]
    cases r with
    | nil => simp [isDig_not_ws hs.head]
    | cons d t => rfl

theorem dropWhile_ws_allDig {s : List Char} (hs : AllDig s) : s.dropWhile isWs = s := by
  cases s with
  | nil => rfl
  | cons c r => simp [List.dropWhile, isDig_not_ws hs.head]

theorem pyInt_allDig {s : List Char} (hs : AllDig s) (hne : s ≠ []) :
    pyInt s = some (Int.ofNat (digitsVal 0 s)) := by
  unfold pyInt
  rw [dropWhile_ws_allDig hs, stripR_allDig hs]
  cases s with
  | nil => exact absurd rfl hne
  | cons c r =>
    have h1 : c ≠ '+' := isDig_ne hs.head (by decide)
    have h2 : c ≠ '-' := isDig_ne hs.head (by decide)
    split
    · rename_i heq; cases heq; exact absurd rfl h1
    · rename_i heq; cases heq; exact absurd rfl h2
    · rw [pyDigits_allDig hs 0 false (Or.inl hne)]; rfl

end Asn1.Time
