/-
  Proofs.Complete — the guided decoder accepts every encoding the rules allow (`IsBer`) and
  returns the encoded value (up to the order of SET OF elements): any header forms, any nesting
  of definite and indefinite lengths, segmented and nested-segmented strings, any TRUE octet,
  SET members in any order, DEFAULT members present or absent.
-/
import Asn1.BerSpec
import Proofs.Placed
import Proofs.RoundTrip
import Proofs.RealRT
import Proofs.DecInduct

namespace Asn1

/-- the decoder's strictness switches admit the profile -/
structure Compat (pf : Profile) (dcfg : DecCfg) : Prop where
  bool : pf.anyTrue = true → dcfg.boolStrict = false
  seg : pf.segmented = true →
    dcfg.consBits = true ∧ allStrKinds.all (fun k => dcfg.consStr.contains k) = true

/-- the DER profile allows neither form that a switch could refuse -/
theorem Compat.der (dcfg : DecCfg) : Compat derProfile dcfg :=
  ⟨fun h => (by cases h), fun h => (by cases h)⟩

theorem tagged_last (e : Bool) (cls : TagClass) (num : Nat) (t : Ty) :
    ∃ f, (Ty.tagged e cls num t).tags.getLast? = some ⟨cls, f, num⟩ := by
  cases e with
  | true => exact ⟨true, by simp [Ty.tags]⟩
  | false =>
    simp only [Ty.tags]
    rcases List.eq_nil_or_concat t.tags with hn | ⟨init, last, hl⟩
    · exact ⟨false, by rw [hn, tagImplicitly_nil]; simp⟩
    · exact ⟨last.constructed, by rw [hl, List.concat_eq_append, tagImplicitly_concat]; simp⟩

theorem intFromBytes_single_ne (o : UInt8) : (intFromBytes [o] != 0) = (o != 0) := by
  have h : o.toNat < 256 := o.toNat_lt
  simp only [intFromBytes, intFromBytesAux]
  by_cases h0 : o = 0
  · subst h0; rfl
  · have hne : o.toNat ≠ 0 := by
      intro hz; exact h0 (UInt8.toNat_inj.mp (by simpa using hz))
    have : (o != 0) = true := by simpa using h0
    rw [this]
    split <;> simp <;> omega

theorem decBool_false (dcfg : DecCfg) (h : Bytes) (tg : Tag) :
    decPrim dcfg .boolean (.prim h tg [0]) = .ok (.bool false) := by
  cases hs : dcfg.boolStrict with
  | false => rw [decPrim_bool_lax hs]; rfl
  | true => exact (decPrim_bool_strict hs).mpr (.inl ⟨rfl, rfl⟩)

theorem decBool_true (pf : Profile) (dcfg : DecCfg) (hc : Compat pf dcfg) (h : Bytes) (tg : Tag) (o : UInt8)
    (ho : if pf.anyTrue then o ≠ 0 else o = 0xFF) :
    decPrim dcfg .boolean (.prim h tg [o]) = .ok (.bool true) := by
  cases hs : dcfg.boolStrict with
  | false =>
    have hne : o ≠ 0 := by
      split at ho
      · exact ho
      · rw [ho]; decide
    rw [decPrim_bool_lax hs, intFromBytes_single_ne, bne_iff_ne.mpr hne]
  | true =>
    -- a strict decoder only goes with a profile that fixes the octet for TRUE
    have ha : pf.anyTrue = false := by
      cases ha : pf.anyTrue
      · rfl
      · rw [hc.bool ha] at hs; cases hs
    rw [ha, if_neg Bool.false_ne_true] at ho
    exact (decPrim_bool_strict hs).mpr (.inr ⟨by rw [ho], rfl⟩)

mutual
theorem seg_dec (num : Nat) : ∀ (c : TLV) (b : Bytes), IsSeg num c b → decSegment num c = .ok b
  | .prim h tg c => fun b hs => by
      cases hs with
      | prim h1 h2 => simp [decSegment, h1, h2]
  | .cons h tg i cs => fun b hs => by
      cases hs with
      | cons h1 h2 h3 =>
        obtain ⟨frs, hd, hf⟩ := segs_dec num cs b h3
        simp [decSegment, h1, h2, hd, Except.map, hf]
theorem segs_dec (num : Nat) : ∀ (cs : List TLV) (bs : Bytes), IsSegs num cs bs →
    ∃ frs, decSegments num cs = .ok frs ∧ frs.flatten = bs
  | [] => fun bs hs => by
      cases hs
      exact ⟨[], by simp [decSegments], rfl⟩
  | c :: cs => fun bs hs => by
      cases hs with
      | @cons _ _ b bs' h1 h2 =>
        obtain ⟨frs, hd, hf⟩ := segs_dec num cs bs' h2
        exact ⟨b :: frs, by simp [decSegments, seg_dec num c b h1, hd, Except.map], by simp [hf]⟩
end

theorem bitSegs_dec : ∀ (cs : List TLV) (bs : List Bool), IsBitSegs cs bs →
    ∃ frags : List (List Bool), decBitSegments cs = .ok (frags.map bitsToContent) ∧ frags.flatten = bs := by
  intro cs bs h
  induction h with
  | nil => exact ⟨[], by simp [decBitSegments], rfl⟩
  | @cons h tg f cs bs h1 h2 _ ih =>
    obtain ⟨frags, hd, hf⟩ := ih
    exact ⟨f :: frags, by simp [decBitSegments, h1, h2, hd, Except.map], by simp [hf]⟩

/-- what decoding an element gives: a value equal to the encoded one up to `VEq`, under an
    identifier the type admits -/
def Dec (dcfg : DecCfg) (t : Ty) (v : Val) (x : TLV) : Prop :=
  ∃ w, decTy dcfg t x = .ok w ∧ VEq t v w ∧ TagIn t x.tag

theorem IsElems.induction {pf : Profile} {t : Ty} {motive : List Val → List TLV → Prop}
    (nil : motive [] [])
    (cons : ∀ {v vs c cs}, IsBer pf t v c → motive vs cs → motive (v :: vs) (c :: cs)) :
    ∀ {vs cs}, IsElems pf t vs cs → motive vs cs := by
  intro vs cs h
  induction cs generalizing vs with
  | nil => cases h; exact nil
  | cons c cs ih => cases h with | cons h1 h2 => exact cons h1 (ih h2)

theorem elems_dec (pf : Profile) (dcfg : DecCfg) (t : Ty)
    (ih : ∀ v c, IsBer pf t v c → Dec dcfg t v c) {vs cs} (h : IsElems pf t vs cs) :
    ∃ ws, decElems dcfg t cs = .ok ws ∧ All2 (fun a b => VEq t a b) vs ws := by
  apply h.induction
  · exact ⟨[], by rw [decElems], trivial⟩
  · rintro v vs c cs hb ⟨ws, hds, hvs⟩
    obtain ⟨w, hd, hv, _⟩ := ih v c hb
    exact ⟨w :: ws, decElems_cons_ok.mpr ⟨w, hd, ws, hds, rfl⟩, hv, hvs⟩

theorem IsBer.outer {pf : Profile} {t : Ty} {o : TagClass × Nat} {v : Val} {x : TLV}
    (ho : t.outer = some o) (h : IsBer pf t v x) :
    x.tag.cls = o.1 ∧ x.tag.num = o.2 ∧ IsBody pf t v x := by
  cases h with
  | choice => cases ho
  | explicit h1 h2 h3 => cases ho; exact ⟨h1, h2, .explicit h3⟩
  | implicit h1 h2 h3 => cases ho; exact ⟨h1, h2, .implicit h3⟩
  | prim h1 h2 h3 => cases ho; exact ⟨h1, h2, h3⟩
  | seq h1 h2 h3 => cases ho; exact ⟨h1, h2, h3⟩
  | seqOf h1 h2 h3 => cases ho; exact ⟨h1, h2, h3⟩
  | set h1 h2 h3 => cases ho; exact ⟨h1, h2, h3⟩
  | setOf h1 h2 h3 => cases ho; exact ⟨h1, h2, h3⟩

theorem ne_absent_of_body (pf : Profile) {t : Ty} {o : TagClass × Nat} (ho : t.outer = some o)
    (hB : ∀ v x, IsBody pf t v x → v ≠ .absent) :
    (∀ v x, IsBer pf t v x → v ≠ .absent) ∧ (∀ v x, IsBody pf t v x → v ≠ .absent) :=
  ⟨fun v x h => hB v x (h.outer ho).2.2, hB⟩

theorem ne_absent (pf : Profile) (t : Ty) :
    (∀ v x, IsBer pf t v x → v ≠ .absent) ∧ (∀ v x, IsBody pf t v x → v ≠ .absent) := by
  induction t using Ty.rec (motive_2 := fun _ => True) with
  | tagged e _ _ t ih =>
    refine ne_absent_of_body pf rfl fun v x h => ?_
    cases h with
    | explicit h3 => exact ih.1 _ _ h3
    | implicit h3 => exact ih.2 _ _ h3
  | choice _ => exact ⟨fun _ _ h => (by cases h; nofun), fun _ _ h => (by cases h; nofun)⟩
  | any => exact ⟨fun _ _ h => (by cases h), fun _ _ h => (by cases h)⟩
  | prim _ => exact ne_absent_of_body pf rfl fun v x h => by cases h <;> nofun
  | seq _ | set _ | seqOf _ | setOf _ => exact ne_absent_of_body pf rfl fun v x h => by cases h; nofun
  | nil | cons => trivial

theorem tagIn_outer {t : Ty} {o : TagClass × Nat} (ho : t.outer = some o) (tg : Tag)
    (hc : tg.cls = o.1) (hn : tg.num = o.2) : TagIn t tg := by
  cases t with
  | choice | any => cases ho
  | tagged e cls num t =>
    cases ho
    obtain ⟨f, hl⟩ := tagged_last e cls num t
    exact tagIn_of_last _ _ tg hl hc.symm hn.symm
  | prim p => cases ho; exact tagIn_of_last _ ⟨.universal, false, p.univNum⟩ tg rfl hc.symm hn.symm
  | seq | seqOf => cases ho; exact tagIn_of_last _ ⟨.universal, true, 16⟩ tg rfl hc.symm hn.symm
  | set | setOf => cases ho; exact tagIn_of_last _ ⟨.universal, true, 17⟩ tg rfl hc.symm hn.symm

variable (pf : Profile) (dcfg : DecCfg)

/-- `decTy` only adds the comparison of the identifier, which an encoding passes -/
theorem dec_of_body {t : Ty} {o : TagClass × Nat} (ho : t.outer = some o)
    (hB : ∀ v x, IsBody pf t v x → ∃ w, decBody dcfg t x = .ok w ∧ VEq t v w) :
    (∀ v x, IsBer pf t v x → Dec dcfg t v x) ∧
    (∀ v x, IsBody pf t v x → ∃ w, decBody dcfg t x = .ok w ∧ VEq t v w) := by
  refine ⟨fun v x h => ?_, hB⟩
  obtain ⟨h1, h2, h3⟩ := h.outer ho
  obtain ⟨w, hd, hv⟩ := hB v x h3
  exact ⟨w, (decTy_eq_ok ho).mpr ⟨⟨h1, h2⟩, hd⟩, hv, tagIn_outer ho x.tag h1 h2⟩

/-- the REAL decoder reads the contents the rules give a value as a value with the same key -/
theorem realFromContent_realContent {r : RealVal} {c : Bytes} (h : realContent r = some c) :
    ∃ r', realFromContent c = .ok r' ∧ realKey r' = realKey r := by
  cases r with
  | pinf => cases h; exact ⟨.pinf, rfl, rfl⟩
  | minf => cases h; exact ⟨.minf, rfl, rfl⟩
  | fin m b e =>
    rw [realContent] at h
    by_cases hm : m = 0
    · rw [if_pos hm] at h; cases h
      exact ⟨.fin 0 10 0, rfl, by rw [realKey, realKey, if_pos hm, if_pos rfl]⟩
    · rw [if_neg hm] at h
      by_cases hb : b = 2
      · subst hb; exact realFromContent_realBinToContent m e c hm h
      · rw [if_neg hb] at h; cases h

variable (hc : Compat pf dcfg)
include hc

theorem prim_complete (p : PrimTy) (hp : (Ty.prim p).plain = true) (v : Val) (x : TLV)
    (h : IsBody pf (.prim p) v x) : ∃ w, decPrim dcfg p x = .ok w ∧ VEq (.prim p) v w := by
  cases h with
  | boolFalse => exact ⟨.bool false, decBool_false dcfg _ _, rfl⟩
  | boolTrue ho => exact ⟨.bool true, decBool_true pf dcfg hc _ _ _ ho, rfl⟩
  | @int z hh tg => exact ⟨.int z, by simp [decPrim, intFromBytes_intToBytes], rfl⟩
  | @enum z hh tg => exact ⟨.int z, by simp [decPrim, intFromBytes_intToBytes], rfl⟩
  | null => exact ⟨.null, by simp [decPrim], rfl⟩
  | @oid arcs c hh tg ho =>
    exact ⟨.oid arcs, by simp [decPrim, oidFromContent_oidToContent _ _ ho, Except.map], rfl⟩
  | @real r c hh tg hr =>
    obtain ⟨r', hd, hk⟩ := realFromContent_realContent hr
    exact ⟨.real r', by rw [decPrim, hd]; rfl, hk.symm⟩
  | @bits bs hh tg => exact ⟨.bits bs, by simp [decPrim, bitsFromContent_bitsToContent, Except.map], rfl⟩
  | @bitsSeg bs hh tg i cs hs hne hsegs =>
    obtain ⟨frags, hd, hf⟩ := bitSegs_dec cs bs hsegs
    have hemp : cs.isEmpty = false := by
      cases cs with
      | nil => exact absurd rfl hne
      | cons _ _ => rfl
    refine ⟨.bits bs, ?_, rfl⟩
    simp only [decPrim, hemp, Bool.and_false, Bool.false_eq_true, if_false, (hc.seg hs).1,
      if_true, hd, concatBitFrags_map]
    simp [Except.map, hf]
  | @str k bs hh tg => exact ⟨.str bs, by simp [decPrim], rfl⟩
  | @strSeg k bs hh tg i cs hs hsegs =>
    obtain ⟨frs, hd, hf⟩ := segs_dec 4 cs bs hsegs
    have hk : dcfg.consStr.contains k = true :=
      List.all_eq_true.mp (hc.seg hs).2 k (List.contains_iff_mem.mp hp)
    refine ⟨.str bs, ?_, rfl⟩
    simp only [decPrim, hk, if_true, hd]
    simp [Except.map, hf]

/- An encoding of a type is an encoding of the body of the same type under the type's identifier, so
   the two statements are proved as a pair (likewise member lists and alternatives): then every
   appeal to the induction hypothesis is on a strict part of the type. -/
mutual
theorem complete_types : ∀ t : Ty, t.plain = true → t.WF = true →
    (∀ v x, IsBer pf t v x → Dec dcfg t v x) ∧
    (∀ v x, IsBody pf t v x → ∃ w, decBody dcfg t x = .ok w ∧ VEq t v w)
  | .prim p => fun hp _ => dec_of_body pf dcfg rfl fun v x h => by
      rw [decBody]; exact prim_complete pf dcfg hc p hp v x h
  | .seq fs => fun hp hw => dec_of_body pf dcfg rfl fun v x h => by
      simp only [Ty.WF, Bool.and_eq_true] at hw
      cases h with
      | @seq _ vs hh tg i cs hf =>
        obtain ⟨ws, hpl⟩ := (complete_members fs hp hw.1).1 vs cs 0 hf
        obtain ⟨hd, _⟩ := seq_dispatch2 dcfg hpl hw.2
        exact ⟨.seq ws, by rw [decBody, hd]; rfl, placed_veq dcfg hpl hw.1⟩
  | .set fs => fun hp hw => dec_of_body pf dcfg rfl fun v x h => by
      simp only [Ty.WF, Bool.and_eq_true] at hw
      cases h with
      | @set _ vs hh tg i cs ms hf hperm =>
        obtain ⟨ws, hpl⟩ := (complete_members fs hp hw.1).1 vs ms 0 hf
        obtain ⟨hd, hap⟩ := set_dispatch2 dcfg fs vs ms cs ws hpl hperm hw.2
        exact ⟨.seq ws, by rw [decBody_set, hd, Res.bind_ok, if_pos hap], placed_veq dcfg hpl hw.1⟩
  | .seqOf t => fun hp hw => dec_of_body pf dcfg rfl fun v x h => by
      cases h with
      | @seqOf _ vs hh tg i cs he =>
        obtain ⟨ws, hd, hv⟩ := elems_dec pf dcfg t (complete_types t hp hw).1 he
        exact ⟨.seqOf ws, by rw [decBody, hd]; rfl, hv⟩
  | .setOf t => fun hp hw => dec_of_body pf dcfg rfl fun v x h => by
      cases h with
      | @setOf _ vs ws hh tg i cs he hperm =>
        obtain ⟨ws', hd, hv⟩ := elems_dec pf dcfg t (complete_types t hp hw).1 he
        obtain ⟨cs', h1, h2⟩ := all2_perm hperm hv
        exact ⟨.seqOf ws', by rw [decBody, hd]; rfl, ⟨cs', h1, h2⟩⟩
  | .choice fs => fun hp hw => by
      simp only [Ty.WF, Bool.and_eq_true] at hw
      -- the alternative that was encoded is the one the decoder picks, inside a wrapper or not
      have key : ∀ i w c, IsAlt pf fs i w c → ∃ w', decAlt dcfg fs 0 c = .ok (.choice i w') ∧
          VEqAlt fs i w w' ∧ TagIn (.choice fs) c.tag := by
        intro i w c ha
        obtain ⟨kd, t, w', hg, htag, hd, hv⟩ := (complete_members fs hp hw.1.1).2 i w c ha
        exact ⟨w', by simp [alt_dispatch dcfg c fs i 0 kd t hw.1.2 hg htag, hd, Except.map], hv,
          tagIn_choice c.tag fs i kd t hp hg htag⟩
      constructor
      · intro v x h
        cases h with
        | choice ha =>
          obtain ⟨w', hd, hv, ht⟩ := key _ _ x ha
          exact ⟨.choice _ w', by rw [decTy]; exact hd, ⟨rfl, hv⟩, ht⟩
      · intro v x h
        cases h with
        | choice ha =>
          obtain ⟨w', hd, hv, _⟩ := key _ _ _ ha
          exact ⟨.choice _ w', by rw [decBody]; exact hd, ⟨rfl, hv⟩⟩
  | .any => fun hp _ => by cases hp
  | .tagged true cls num t => fun hp hw => dec_of_body pf dcfg rfl fun v x h => by
      simp only [Ty.WF, Bool.and_eq_true] at hw
      cases h with
      | explicit h3 =>
        obtain ⟨w, hd, hv, _⟩ := (complete_types t hp hw.2).1 _ _ h3
        exact ⟨w, by rw [decBody]; exact hd, hv⟩
  | .tagged false cls num t => fun hp hw => dec_of_body pf dcfg rfl fun v x h => by
      cases h with
      | implicit h3 =>
        obtain ⟨w, hd, hv⟩ := (complete_types t hp hw).2 _ _ h3
        exact ⟨w, by rw [decBody]; exact hd, hv⟩
theorem complete_members : ∀ fs : Fields, Fields.plain fs = true → Fields.WF fs = true →
    (∀ vs cs k, IsFields pf fs vs cs → ∃ ws, Placed (ElemDec dcfg) k fs vs cs ws) ∧
    (∀ i w x, IsAlt pf fs i w x → ∃ kd t w',
      fs.get? i = some (kd, t) ∧ TagIn t x.tag ∧ decTy dcfg t x = .ok w' ∧ VEqAlt fs i w w')
  | .nil => fun _ _ => ⟨fun _ _ _ h => by cases h; exact ⟨[], .nil⟩, fun _ _ _ h => by cases h⟩
  | .cons kd t rest => fun hp hw => by
      simp only [Fields.plain, Bool.and_eq_true] at hp
      have hw' := Fields.WF_cons hw
      have iht := (complete_types t hp.1 hw'.1).1
      have ihr := complete_members rest hp.2 hw'.2.1
      constructor
      · intro vs cs k h
        cases h with
        | absentOpt hr =>
          obtain ⟨ws, hpl⟩ := ihr.1 _ cs (k + 1) hr
          exact ⟨_, .skipOpt hpl⟩
        | absentDflt hr =>
          obtain ⟨ws, hpl⟩ := ihr.1 _ cs (k + 1) hr
          exact ⟨_, .skipDflt hpl⟩
        | @present _ _ _ v vs' c cs' hb hr =>
          obtain ⟨w, hd, hv, htag⟩ := iht v c hb
          obtain ⟨ws, hpl⟩ := ihr.1 vs' cs' (k + 1) hr
          have hna : w ≠ .absent := fun he => (ne_absent pf t).1 v c hb ((isAbsent_veq t v w hv).mpr he)
          exact ⟨w :: ws, .present ⟨htag, hd, hv, hna⟩ hpl⟩
      · intro i w x h
        cases h with
        | here hb =>
          obtain ⟨w', hd, hv, htag⟩ := iht w x hb
          exact ⟨kd, t, w', rfl, htag, hd, hv⟩
        | there ha => exact ihr.2 _ w x ha
end

theorem complete_ty : ∀ (t : Ty) (v : Val) (x : TLV), t.plain = true → t.WF = true →
    IsBer pf t v x → Dec dcfg t v x :=
  fun t v x hp hw => (complete_types pf dcfg hc t hp hw).1 v x
theorem complete_body : ∀ (t : Ty) (v : Val) (x : TLV), t.plain = true → t.WF = true →
    IsBody pf t v x → ∃ w, decBody dcfg t x = .ok w ∧ VEq t v w :=
  fun t v x hp hw => (complete_types pf dcfg hc t hp hw).2 v x
theorem complete_fields : ∀ (fs : Fields) (vs : List Val) (cs : List TLV) (k : Nat),
    Fields.plain fs = true → Fields.WF fs = true → IsFields pf fs vs cs →
    ∃ ws, Placed (ElemDec dcfg) k fs vs cs ws :=
  fun fs vs cs k hp hw => (complete_members pf dcfg hc fs hp hw).1 vs cs k
theorem complete_alt : ∀ (fs : Fields) (i : Nat) (w : Val) (x : TLV),
    Fields.plain fs = true → Fields.WF fs = true → IsAlt pf fs i w x →
    ∃ kd t w', fs.get? i = some (kd, t) ∧ TagIn t x.tag ∧ decTy dcfg t x = .ok w' ∧ VEqAlt fs i w w' :=
  fun fs i w x hp hw => (complete_members pf dcfg hc fs hp hw).2 i w x

end Asn1
