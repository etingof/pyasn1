/-
  Proofs.RoundTrip — decoding inverts encoding at the level of types and values, for every type
  and value in the stated region, with no bound on nesting, width, tag numbers or lengths.
  The encoder's header loop (`finishItem` / `wrapTags`) builds a well-formed element that the decoder's
  tag matching (`decTy`) strips again (`wrapRest_decG`, an instance of `wrapRest_inv`); what `encValue`,
  `encFields` and `encSetMembers` return is stated type by type (`encValue_*_ok`, `encFields_cons_ok`,
  `encSetMembers_cons_ok`); `rt_content` / `rt_fields` / `rt_alt` are a mutual induction over the type.
-/
import Proofs.Wrap
import Proofs.Typing
import Proofs.PrimRT
import Proofs.DecTags
import Proofs.Dispatch
import Proofs.Placed

namespace Asn1

mutual
/-- types of the region: no ANY, REAL only if `rl`, string kinds the BER decoder knows, no IMPLICIT/EXPLICIT
    tag `[UNIVERSAL 0]`, and — unless the mode is definite — no explicit tag over a scalar whose
    encoder cannot write indefinite lengths (finding E1, the stray end-of-octets). -/
def Ty.reg (rl : Bool) (cfg : EncCfg) (dm : Bool) : Ty → Bool
  | .prim .real => rl
  | .prim (.str k) => allStrKinds.contains k
  | .prim _ => true
  | .any => false
  | .seq fs => Fields.reg rl cfg dm fs
  | .set fs => Fields.reg rl cfg dm fs
  | .choice fs => Fields.reg rl cfg dm fs
  | .seqOf t => t.reg rl cfg dm
  | .setOf t => t.reg rl cfg dm
  | .tagged e c n t =>
    (c != .universal || n != 0) &&
    (dm || supportsIndef cfg t.base || decide ((Ty.tagged e c n t).tags.length ≤ 1)) && t.reg rl cfg dm
def Fields.reg (rl : Bool) (cfg : EncCfg) (dm : Bool) : Fields → Bool
  | .nil => true
  | .cons _ t r => t.reg rl cfg dm && Fields.reg rl cfg dm r
end

mutual
/-- types covered: no ANY, string kinds known to the decoder tables -/
def Ty.plain : Ty → Bool
  | .prim (.str k) => allStrKinds.contains k
  | .prim _ => true
  | .any => false
  | .seq fs => Fields.plain fs
  | .set fs => Fields.plain fs
  | .choice fs => Fields.plain fs
  | .seqOf t => t.plain
  | .setOf t => t.plain
  | .tagged _ _ _ t => t.plain
def Fields.plain : Fields → Bool
  | .nil => true
  | .cons _ t r => t.plain && Fields.plain r
end

mutual
theorem reg_plain (rl : Bool) (cfg : EncCfg) (dm : Bool) : ∀ (t : Ty), t.reg rl cfg dm = true → t.plain = true
  | .prim p, h => by
      cases p with
      | str k => exact h
      | _ => rfl
  | .any, h => by cases h
  | .seq fs, h | .set fs, h | .choice fs, h => regF_plain rl cfg dm fs h
  | .seqOf t, h | .setOf t, h => reg_plain rl cfg dm t h
  | .tagged _ _ _ t, h => reg_plain rl cfg dm t (Bool.and_eq_true_iff.mp h).2
theorem regF_plain (rl : Bool) (cfg : EncCfg) (dm : Bool) : ∀ (fs : Fields), Fields.reg rl cfg dm fs = true →
    Fields.plain fs = true
  | .nil, _ => rfl
  | .cons _ t r, h =>
    Bool.and_eq_true_iff.mpr ⟨reg_plain rl cfg dm t (Bool.and_eq_true_iff.mp h).1,
      regF_plain rl cfg dm r (Bool.and_eq_true_iff.mp h).2⟩
end

structure Region (cfg : EncCfg) (dcfg : DecCfg) (o : EncOpts) : Prop where
  seqOmit : cfg.seqOmitEmpty = false
  setOrd : cfg.setOrder = .declared
  sortOf : cfg.sortSetOf = false
  chunk : o.maxChunk = 0 ∨
    (dcfg.consBits = true ∧ allStrKinds.all (fun k => dcfg.consStr.contains k) = true)
  ine : o.ifNotEmpty = false
  bool : ∀ (b : Bool) (hd : Bytes) (tg : Tag),
    decPrim dcfg .boolean (.prim hd tg [UInt8.ofNat (if b then cfg.boolTrue else 0)]) = .ok (.bool b)

theorem reg_tagged {rl : Bool} {cfg : EncCfg} {dm e : Bool} {c : TagClass} {n : Nat} {t : Ty}
    (h : (Ty.tagged e c n t).reg rl cfg dm = true) : t.reg rl cfg dm = true := by
  simp only [Ty.reg, Bool.and_eq_true] at h; exact h.2

theorem allOk_cons {α} {r : Except Err α} {rs : List (Except Err α)} {bs : List α}
    (h : allOk (r :: rs) = .ok bs) : ∃ b bs', r = .ok b ∧ allOk rs = .ok bs' ∧ bs = b :: bs' := by
  cases r with
  | error e => cases h
  | ok b =>
    obtain ⟨bs', hr, rfl⟩ := Res.map_eq_ok.mp (show (allOk rs).map (b :: ·) = .ok bs from h)
    exact ⟨b, bs', rfl, hr, rfl⟩

theorem encValue_set (cfg : EncCfg) (o : EncOpts) (fs : Fields) (vs : List Val) :
    encValue cfg o (.set fs) (.seq vs) =
      if cfg.setOrder = .declared then (encFields cfg o fs vs).map (·, true)
      else (encSetMembers cfg o cfg.setOrder fs vs).map fun ms =>
        (((ms.mergeSort fun a b => tagSetLe (outerKey a.1) (outerKey b.1)).map (·.2)).flatten, true) := by
  dsimp only [encValue]
  cases cfg.setOrder with
  | declared => rfl
  | _ => simp only [reduceCtorEq, if_false]; split <;> simp only [Except.map, *]

def okTag (tg : Tag) : Prop := tg.cls ≠ .universal ∨ tg.num ≠ 0

theorem nil_or_snoc {α} (l : List α) : l = [] ∨ ∃ init last, l = init ++ [last] := by
  rcases List.eq_nil_or_concat l with h | ⟨i, a, h⟩
  · exact Or.inl h
  · exact Or.inr ⟨i, a, by rw [h, List.concat_eq_append]⟩

theorem tagImplicitly_concat (init : List Tag) (last : Tag) (cls : TagClass) (fmt : Bool) (num : Nat) :
    TagSet.tagImplicitly (init ++ [last]) cls fmt num = init ++ [⟨cls, last.constructed, num⟩] := by
  simp [TagSet.tagImplicitly]

theorem tagImplicitly_nil (cls : TagClass) (fmt : Bool) (num : Nat) :
    TagSet.tagImplicitly [] cls fmt num = [⟨cls, fmt, num⟩] := by
  simp [TagSet.tagImplicitly]

theorem tagged_tags_ne (e : Bool) (c : TagClass) (n : Nat) (t : Ty) : (Ty.tagged e c n t).tags ≠ [] :=
  fun h => by rcases tags_eq_nil h with ⟨fs, hf⟩ | hf <;> cases hf

theorem effTags_of_tags (t : Ty) (v : Val) (h : t.tags ≠ []) : effTags t v = t.tags := by
  cases v <;> simp [effTags, h]

theorem tags_shape : ∀ (t : Ty), (t.tags = [] ∧ ∀ p, t.base ≠ .prim p) ∨
    ∃ t0 ts, t.tags = t0 :: ts ∧ (∀ tg ∈ ts, tg.constructed = true) ∧
      ∀ p, t.base = .prim p → t0.constructed = false
  | .prim _ => .inr ⟨_, [], rfl, (fun _ h => nomatch h), fun _ _ => rfl⟩
  | .seq _ => .inr ⟨_, [], rfl, (fun _ h => nomatch h), (fun _ h => nomatch h)⟩
  | .seqOf _ => .inr ⟨_, [], rfl, (fun _ h => nomatch h), (fun _ h => nomatch h)⟩
  | .set _ => .inr ⟨_, [], rfl, (fun _ h => nomatch h), (fun _ h => nomatch h)⟩
  | .setOf _ => .inr ⟨_, [], rfl, (fun _ h => nomatch h), (fun _ h => nomatch h)⟩
  | .choice _ => .inl ⟨rfl, (fun _ h => nomatch h)⟩
  | .any => .inl ⟨rfl, (fun _ h => nomatch h)⟩
  | .tagged true c n t => by
      rcases tags_shape t with ⟨h, hb⟩ | ⟨t0, ts, h, hts, hp⟩
      · exact .inr ⟨⟨c, true, n⟩, [], by simp [Ty.tags, h], (fun _ h => nomatch h), fun p hp => absurd hp (hb p)⟩
      · refine .inr ⟨t0, ts ++ [⟨c, true, n⟩], by simp [Ty.tags, h], fun tg hm => ?_, hp⟩
        rcases List.mem_append.mp hm with hm | hm
        · exact hts tg hm
        · rw [List.mem_singleton.mp hm]
  | .tagged false c n t => by
      rcases tags_shape t with ⟨h, hb⟩ | ⟨t0, ts, h, hts, hp⟩
      · exact .inr ⟨⟨c, false, n⟩, [], by simp [Ty.tags, h, TagSet.tagImplicitly], (fun _ h => nomatch h),
          fun p hp => absurd hp (hb p)⟩
      · rcases nil_or_snoc ts with rfl | ⟨init, last, rfl⟩
        · exact .inr ⟨⟨c, t0.constructed, n⟩, [], by simp [Ty.tags, h, TagSet.tagImplicitly], (fun _ h => nomatch h), hp⟩
        · refine .inr ⟨t0, init ++ [⟨c, last.constructed, n⟩], ?_, fun tg hm => ?_, hp⟩
          · rw [Ty.tags, h, ← List.cons_append, tagImplicitly_concat]; rfl
          · rcases List.mem_append.mp hm with hm | hm
            · exact hts tg (by simp [hm])
            · rw [List.mem_singleton.mp hm]; exact hts last (by simp)

theorem tags_tail_constructed (t : Ty) : ∀ tg ∈ t.tags.tail, tg.constructed = true := by
  rcases tags_shape t with ⟨h, _⟩ | ⟨t0, ts, h, hts, _⟩
  · simp [h]
  · simpa [h] using hts

theorem tags_head_prim (t : Ty) (p : PrimTy) (hb : t.base = .prim p) :
    ∃ t0 ts, t.tags = t0 :: ts ∧ t0.constructed = false := by
  rcases tags_shape t with ⟨_, h⟩ | ⟨t0, ts, h, _, hp⟩
  · exact absurd hb (h p)
  · exact ⟨t0, ts, h, hp p hb⟩

theorem strKind_ne_zero (k : Nat) (h : allStrKinds.contains k = true) : k ≠ 0 := by
  intro hk; subst hk; revert h; decide

theorem mem_tagImplicitly {tg : Tag} {ts : TagSet} {cls : TagClass} {fmt : Bool} {num : Nat}
    (h : tg ∈ TagSet.tagImplicitly ts cls fmt num) : (tg.cls = cls ∧ tg.num = num) ∨ tg ∈ ts := by
  rcases nil_or_snoc ts with rfl | ⟨init, last, rfl⟩
  · rw [tagImplicitly_nil, List.mem_singleton] at h
    exact .inl (by rw [h]; exact ⟨rfl, rfl⟩)
  · rw [tagImplicitly_concat, List.mem_append, List.mem_singleton] at h
    rcases h with h | h
    · exact .inr (by simp [h])
    · exact .inl (by rw [h]; exact ⟨rfl, rfl⟩)

theorem tags_ok (rl : Bool) (cfg : EncCfg) (dm : Bool) : ∀ (t : Ty), t.reg rl cfg dm = true → t.WF = true →
    ∀ tg ∈ t.tags, okTag tg
  | .prim p => fun hr _ tg h => by
      rw [List.mem_singleton.mp h]
      right
      cases p with
      | str k => exact strKind_ne_zero k (by simpa [Ty.reg] using hr)
      | _ => simp [PrimTy.univNum]
  | .seq _ => fun _ _ tg h => by rw [List.mem_singleton.mp h]; right; simp
  | .seqOf _ => fun _ _ tg h => by rw [List.mem_singleton.mp h]; right; simp
  | .set _ => fun _ _ tg h => by rw [List.mem_singleton.mp h]; right; simp
  | .setOf _ => fun _ _ tg h => by rw [List.mem_singleton.mp h]; right; simp
  | .choice _ => fun _ _ tg h => nomatch h
  | .any => fun _ _ tg h => nomatch h
  | .tagged true cls num t => fun hr hw tg h => by
      simp only [Ty.WF, Bool.and_eq_true, bne_iff_ne] at hw
      rcases List.mem_append.mp h with h | h
      · exact tags_ok rl cfg dm t (reg_tagged hr) hw.2 tg h
      · rw [List.mem_singleton.mp h]; left; exact hw.1
  | .tagged false cls num t => fun hr hw tg h => by
      rcases mem_tagImplicitly h with ⟨hc, hn⟩ | h
      · simp only [Ty.reg, Bool.and_eq_true, Bool.or_eq_true, bne_iff_ne] at hr
        rw [okTag, hc, hn]; exact hr.1.1
      · exact tags_ok rl cfg dm t (reg_tagged hr) hw tg h

theorem reg_not_any (rl : Bool) (cfg : EncCfg) (dm : Bool) : ∀ (t : Ty), t.reg rl cfg dm = true → isAnyBase t = false
  | .prim _ => fun _ => rfl
  | .seq _ => fun _ => rfl
  | .seqOf _ => fun _ => rfl
  | .set _ => fun _ => rfl
  | .setOf _ => fun _ => rfl
  | .choice _ => fun _ => rfl
  | .any => fun h => by simp [Ty.reg] at h
  | .tagged _ _ _ t => fun h => reg_not_any rl cfg dm t (reg_tagged h)

theorem reg_hok (rl : Bool) (cfg : EncCfg) (dm : Bool) (t : Ty) (hr : t.reg rl cfg dm = true) (t0 : Tag) (ts : List Tag)
    (ht : t.tags = t0 :: ts) : ts = [] ∨ dm = true ∨ supportsIndef cfg t.base = true := by
  cases t with
  | tagged e c n t' =>
    simp only [Ty.reg, Bool.and_eq_true, Bool.or_eq_true, decide_eq_true_eq] at hr
    rcases hr.1.2 with (h | h) | h
    · exact Or.inr (Or.inl h)
    · exact Or.inr (Or.inr h)
    · left
      rw [ht] at h
      simp only [List.length_cons] at h
      exact List.eq_nil_of_length_eq_zero (by omega)
  | choice _ => nomatch ht
  | any => nomatch ht
  | _ => exact .inl (List.cons.inj ht).2.symm

theorem tagIn_of_last (t : Ty) (tl tg : Tag) (hl : t.tags.getLast? = some tl)
    (hc : tl.cls = tg.cls) (hn : tl.num = tg.num) : TagIn t tg := by
  refine ⟨[tl], ?_, by simp [Tag.same, hc, hn]⟩
  cases t with
  | choice _ => nomatch hl
  | any => nomatch hl
  | _ => simp only [Ty.outerTags, hl]


theorem sameTag_wire (t : Tag) (ic : Bool) : sameTag (wireTag t ic) t = true := by
  simp [sameTag, wireTag]

theorem wrapRest_decG (dcfg : DecCfg) (base : Ty) {dm : Bool} {ts : List Tag} {y x : TLV}
    (h : wrapRest dm ts y = .ok x) (i0 : Tag) (inner : List Tag) :
    decG dcfg base true (ts.reverse ++ i0 :: inner) x = decG dcfg base true (i0 :: inner) y :=
  (wrapRest_inv (P := fun l z => l ≠ [] ∧ decG dcfg base true l z = decG dcfg base true (i0 :: inner) y)
    (fun t l hd z _ hp => ⟨List.cons_ne_nil _ _, by
      obtain ⟨a, r, rfl⟩ := List.exists_cons_of_ne_nil hp.1
      rw [← hp.2]
      simp [decG, sameTag_wire]⟩) ts y x _ h ⟨List.cons_ne_nil _ _, rfl⟩).2

/-- what one encoded item is: the serialisation of a well-formed element that starts with one of
    the type's own tags and that the guided decoder reads back as the value -/
def Good (dcfg : DecCfg) (t : Ty) (v : Val) (b : Bytes) : Prop :=
  ∃ x : TLV, b = x.ser ∧ x.WF ∧ NotEoo x.ser ∧ TagIn t x.tag ∧ decTy dcfg t x = .ok v

/-- what `encodeValue` returned: contents the payload decoder of the base type reads back as the
    value, under any header -/
def ContentOk (cfg : EncCfg) (dcfg : DecCfg) (t : Ty) (v : Val) (sub : Bytes) (isCons : Bool) : Prop :=
  (isCons = false → (∃ p, t.base = .prim p) ∧
      ∀ hd tg, decBody dcfg t.base (.prim hd tg sub) = .ok v) ∧
  (isCons = true → supportsIndef cfg t.base = true ∧
      ∃ cs, sub = serList cs ∧ WFs cs ∧ NoEooL cs ∧
        (∀ hd tg indef, decBody dcfg t.base (.cons hd tg indef cs) = .ok v) ∧
        (t.tags = [] → ∃ x, cs = [x] ∧ TagIn t x.tag ∧ decTy dcfg t x = .ok v))

section
variable {cfg : EncCfg} {dcfg : DecCfg} {t : Ty} {v : Val}

theorem contentOk_untagged {sub : Bytes} (hc : ContentOk cfg dcfg t v sub true) (ht : t.tags = []) :
    Good dcfg t v sub := by
  obtain ⟨_, cs, hsub, hw, hne, _, hx⟩ := hc.2 rfl
  obtain ⟨x, rfl, htag, hdec⟩ := hx ht
  exact ⟨x, by rw [hsub, serList_single], hw.1, hne.1, htag, hdec⟩

theorem contentOk_tagged {sub : Bytes} {ic : Bool} (e : Bool) (c : TagClass) (n : Nat)
    (h : ContentOk cfg dcfg t v sub ic) :
    ContentOk cfg dcfg (.tagged e c n t) v sub ic := by
  refine ⟨h.1, fun hic => ?_⟩
  obtain ⟨h1, cs, h2, h3, h4, h5, _⟩ := h.2 hic
  exact ⟨h1, cs, h2, h3, h4, h5, fun ht => absurd ht (tagged_tags_ne e c n t)⟩

theorem contentOk_prim {p : PrimTy} {sub : Bytes}
    (h : ∀ hd tg, decPrim dcfg p (.prim hd tg sub) = .ok v) :
    ContentOk cfg dcfg (.prim p) v sub false := by
  refine ⟨fun _ => ⟨⟨p, rfl⟩, ?_⟩, fun hic => by simp at hic⟩
  intro hd tg
  simp only [Ty.base, decBody]
  exact h hd tg

theorem contentOk_cons {cs : List TLV} (hsi : supportsIndef cfg t.base = true) (ht : t.tags ≠ [])
    (hw : WFs cs) (hne : NoEooL cs)
    (hb : ∀ hd tg indef, decBody dcfg t.base (.cons hd tg indef cs) = .ok v) :
    ContentOk cfg dcfg t v (serList cs) true :=
  ⟨nofun, fun _ => ⟨hsi, cs, rfl, hw, hne, hb, fun h => absurd h ht⟩⟩

theorem contentOk_single {x : TLV} (hsi : supportsIndef cfg t.base = true) (hw : x.WF) (hne : NotEoo x.ser)
    (hb : ∀ hd tg indef, decBody dcfg t.base (.cons hd tg indef [x]) = .ok v)
    (ht : TagIn t x.tag) (hd : decTy dcfg t x = .ok v) : ContentOk cfg dcfg t v x.ser true :=
  ⟨nofun, fun _ => ⟨hsi, [x], (serList_single x).symm, ⟨hw, trivial⟩, ⟨hne, trivial⟩, hb,
    fun _ => ⟨x, rfl, ht, hd⟩⟩⟩

end

theorem finishItem_prim {cfg : EncCfg} {o : EncOpts} {rl : Bool} {t : Ty} {p : PrimTy} {sub b : Bytes}
    (hreg : t.reg rl cfg o.defMode = true) (hwf : t.WF = true) (hp : t.base = .prim p)
    (h : finishItem cfg o t (.ok (sub, false)) = .ok b) :
    ∃ t0 ts hd x, t.tags = t0 :: ts ∧
      wrapRest o.defMode ts (.prim hd (wireTag t0 false) sub) = .ok x ∧ b = x.ser ∧
      (TLV.prim hd (wireTag t0 false) sub).WF ∧ NotEoo (TLV.prim hd (wireTag t0 false) sub).ser := by
  obtain ⟨t0, ts, htags, hc0⟩ := tags_head_prim t p hp
  have hts : ∀ tg ∈ ts, tg.constructed = true := fun tg hm =>
    tags_tail_constructed t tg (by rw [htags]; simpa using hm)
  simp only [finishItem, htags, List.isEmpty_cons, Bool.and_false, Bool.false_and, Bool.false_eq_true,
    if_false] at h
  rw [wrapTags_prim _ _ _ _ _ hts (reg_hok rl cfg o.defMode t hreg t0 ts htags)] at h
  obtain ⟨x, hx, rfl⟩ := Res.map_eq_ok.mp h
  cases hy : primNode t0 sub with
  | error e => rw [hy] at hx; cases hx
  | ok y =>
    rw [hy] at hx
    obtain ⟨l, _, rfl⟩ := primNode_ok hy
    have hyw := primNode_wf t0 sub _ hc0 hy
    exact ⟨t0, ts, _, x, htags, hx, rfl, hyw, notEoo_of_tag _ hyw
      ((tags_ok rl cfg o.defMode t hreg hwf t0 (by rw [htags]; simp)).imp_right .inl)⟩

theorem finishItem_cons {cfg : EncCfg} {o : EncOpts} {t : Ty} {t0 : Tag} {ts : List Tag} {cs : List TLV} {b : Bytes}
    (htags : t.tags = t0 :: ts) (hsi : supportsIndef cfg t.base = true) (hw : WFs cs) (hne : NoEooL cs)
    (homit : ((serList cs).isEmpty && o.ifNotEmpty) = false)
    (h : finishItem cfg o t (.ok (serList cs, true)) = .ok b) :
    ∃ hd x, (∀ tg ∈ ts, tg.constructed = true) ∧
      wrapRest o.defMode ts (.cons hd (wireTag t0 true) (!o.defMode) cs) = .ok x ∧ b = x.ser ∧
      (TLV.cons hd (wireTag t0 true) (!o.defMode) cs).WF ∧
      NotEoo (TLV.cons hd (wireTag t0 true) (!o.defMode) cs).ser := by
  have hts : ∀ tg ∈ ts, tg.constructed = true := fun tg hm =>
    tags_tail_constructed t tg (by rw [htags]; simpa using hm)
  simp only [finishItem, htags, List.isEmpty_cons, Bool.and_true, homit, Bool.false_eq_true, if_false] at h
  rw [wrapTags_cons _ _ _ _ _ hts (Or.inr hsi)] at h
  obtain ⟨x, hx, rfl⟩ := Res.map_eq_ok.mp h
  cases hy : consNode t0 (!o.defMode) cs with
  | error e => rw [hy] at hx; cases hx
  | ok y =>
    rw [hy] at hx
    have hyw : y.WF := consNode_wf t0 _ cs y hw (fun _ => hne) hy
    obtain ⟨hytag, hd, rfl⟩ := consNode_tag t0 _ cs y hy
    exact ⟨hd, x, hts, hx, rfl, hyw, notEoo_of_tag _ hyw (by right; right; simp [TLV.tag, wireTag])⟩

theorem item_of_content (cfg : EncCfg) (dcfg : DecCfg) (o : EncOpts) (hR : Region cfg dcfg o)
    (t : Ty) (hreg : t.reg false cfg o.defMode = true) (hwf : t.WF = true) (v : Val) (sub : Bytes)
    (isCons : Bool) (b : Bytes) (hc : ContentOk cfg dcfg t v sub isCons)
    (h : finishItem cfg o t (.ok (sub, isCons)) = .ok b) : Good dcfg t v b := by
  have hna := reg_not_any false cfg o.defMode t hreg
  -- whatever the base element `y` is: wrapped in the remaining tags, it is found again under them
  have key : ∀ {t0 ts ic y x}, t.tags = t0 :: ts → wrapRest o.defMode ts y = .ok x → y.WF → NotEoo y.ser →
      y.tag = wireTag t0 ic → decBody dcfg t.base y = .ok v → Good dcfg t v x.ser := by
    intro t0 ts ic y x htags hx hyw hyn hyt hbody
    obtain ⟨h1, h2⟩ := wrapRest_wf hx hyw hyn
    obtain ⟨tl, ic', hl, hxt⟩ := wrapRest_tag hx hyt
    refine ⟨x, rfl, h1, h2, tagIn_of_last t tl x.tag (htags ▸ hl) (congrArg Tag.cls hxt).symm
      (congrArg Tag.num hxt).symm, ?_⟩
    rw [decTy_decG dcfg t x hna, htags, List.reverse_cons, wrapRest_decG dcfg t.base hx t0 []]
    simpa [decG, hyt, sameTag_wire] using hbody
  cases isCons with
  | false =>
    obtain ⟨⟨p, hp⟩, hbody⟩ := hc.1 rfl
    obtain ⟨t0, ts, hd, x, htags, hx, rfl, hyw, hyn⟩ := finishItem_prim hreg hwf hp h
    exact key htags hx hyw hyn rfl (hbody hd _)
  | true =>
    cases htags : t.tags with
    | nil =>
      simp only [finishItem, htags, List.isEmpty_nil, if_true, Except.ok.injEq] at h
      exact h ▸ contentOk_untagged hc htags
    | cons t0 ts =>
      obtain ⟨hsi, cs, rfl, hw, hne, hbody, _⟩ := hc.2 rfl
      obtain ⟨hd, x, _, hx, rfl, hyw, hyn⟩ := finishItem_cons htags hsi hw hne (by simp [hR.ine]) h
      exact key htags hx hyw hyn rfl (hbody hd _ _)


theorem outerTags_cons {k : FKind} {t : Ty} {r : Fields} {a b : List Tag} (ha : t.outerTags = some a)
    (hb : Ty.outerTags.Fields.outerTags r = some b) :
    Ty.outerTags.Fields.outerTags (.cons k t r) = some (a ++ b) := by
  rw [Ty.outerTags.Fields.outerTags, ha, hb]

mutual
theorem plain_outer_some : ∀ (t : Ty), t.plain = true → ∃ l, t.outerTags = some l
  | .choice fs, h => plainF_outer_some fs h
  | .any, h => by cases h
  | .prim _, _ | .seq _, _ | .seqOf _, _ | .set _, _ | .setOf _, _ => ⟨_, rfl⟩
  | .tagged e c n t, _ => by
      simp only [Ty.outerTags]; cases (Ty.tagged e c n t).tags.getLast? <;> simp
theorem plainF_outer_some : ∀ (fs : Fields), Fields.plain fs = true →
    ∃ l, Ty.outerTags.Fields.outerTags fs = some l
  | .nil, _ => ⟨[], rfl⟩
  | .cons k t r, h => by
      simp only [Fields.plain, Bool.and_eq_true] at h
      obtain ⟨a, ha⟩ := plain_outer_some t h.1
      obtain ⟨b, hb⟩ := plainF_outer_some r h.2
      exact ⟨a ++ b, outerTags_cons ha hb⟩
end

theorem tagIn_choice (tg : Tag) : ∀ (fs : Fields) (i : Nat) (kd : FKind) (t : Ty),
    Fields.plain fs = true → fs.get? i = some (kd, t) → TagIn t tg → TagIn (.choice fs) tg
  | .nil, _ => fun _ _ _ hg _ => by cases hg
  | .cons k' t' r, 0 => fun kd t hr hg ht => by
      obtain rfl : t' = t := congrArg Prod.snd (Option.some.inj hg)
      simp only [Fields.plain, Bool.and_eq_true] at hr
      obtain ⟨a, ha, hany⟩ := ht
      obtain ⟨b, hb⟩ := plainF_outer_some r hr.2
      exact ⟨a ++ b, outerTags_cons (k := k') ha hb, by simp [List.any_append, hany]⟩
  | .cons k' t' r, i + 1 => fun kd t hr hg ht => by
      simp only [Fields.plain, Bool.and_eq_true] at hr
      obtain ⟨a, ha⟩ := plain_outer_some t' hr.1
      obtain ⟨b, hb, hany⟩ := tagIn_choice tg r i kd t hr.2 hg ht
      exact ⟨a ++ b, outerTags_cons (k := k') ha hb, by simp [List.any_append, hany]⟩

theorem serList_cons (x : TLV) (cs : List TLV) : serList (x :: cs) = x.ser ++ serList cs := by
  simp [serList]

theorem elems_good (dcfg : DecCfg) (t : Ty) (f : Val → Except Err Bytes) :
    ∀ (vs : List Val) (bs : List Bytes),
      (∀ v b, v ∈ vs → f v = .ok b → Good dcfg t v b) → allOk (vs.map f) = .ok bs →
      ∃ cs, bs.flatten = serList cs ∧ WFs cs ∧ NoEooL cs ∧ decElems dcfg t cs = .ok vs
  | [] => fun bs _ h => by
      simp only [List.map_nil, allOk, Except.ok.injEq] at h
      subst h
      exact ⟨[], by simp [serList], trivial, trivial, by simp [decElems]⟩
  | v :: vs => fun bs hg h => by
      obtain ⟨b, bs', hv, hr, rfl⟩ := allOk_cons h
      obtain ⟨x, hb, hw, hn, _, hdec⟩ := hg v b (by simp) hv
      obtain ⟨cs, h1, h2, h3, h4⟩ := elems_good dcfg t f vs bs'
        (fun v' b' hm hf => hg v' b' (by simp [hm]) hf) hr
      exact ⟨x :: cs, by simp [serList_cons, hb, h1], ⟨hw, h2⟩, ⟨hn, h3⟩,
        by simp [decElems, hdec, h4, Except.map]⟩

theorem opts_eq (o : EncOpts) (h : o.ifNotEmpty = false) : { o with ifNotEmpty := false } = o := by
  cases o; simp_all

theorem finish_ok {cfg : EncCfg} {o : EncOpts} {t : Ty} {r : Except Err (Bytes × Bool)} {b : Bytes}
    (h : finishItem cfg o t r = .ok b) : ∃ sub ic, r = .ok (sub, ic) := by
  cases r with
  | error e => simp [finishItem] at h
  | ok p => exact ⟨p.1, p.2, rfl⟩


/-- the primitive element written for one fragment of a segmented string -/
def fragNode (p : PrimTy) (f : Bytes) : TLV :=
  .prim (encodeTag ⟨.universal, false, p.univNum⟩ false ++ (encodeLength f.length).getD [])
    ⟨.universal, false, p.univNum⟩ f

theorem finish_frag (cfg : EncCfg) (o : EncOpts) (p : PrimTy) (f : Bytes) :
    finishItem cfg o (.prim p) (.ok (f, false))
      = (primNode ⟨.universal, false, p.univNum⟩ f).map TLV.ser := by
  simp only [finishItem, Ty.tags, List.isEmpty_cons, Bool.false_eq_true, if_false, Bool.and_false,
    Bool.false_and, Ty.base]
  rw [wrapTags_prim _ _ _ [] f (by simp) (Or.inl rfl)]
  cases h : primNode ⟨.universal, false, p.univNum⟩ f <;> simp [wrapAll, wrapRest, Except.map]

theorem frags_nodes (cfg : EncCfg) (o : EncOpts) (p : PrimTy) (hp : p.univNum ≠ 0) :
    ∀ (frags outs : List Bytes),
      allOk (frags.map fun f => finishItem cfg o (.prim p) (.ok (f, false))) = .ok outs →
      outs.flatten = serList (frags.map (fragNode p)) ∧ WFs (frags.map (fragNode p)) ∧
        NoEooL (frags.map (fragNode p))
  | [] => fun outs h => by
      cases h
      exact ⟨rfl, trivial, trivial⟩
  | f :: frags => fun outs h => by
      obtain ⟨b, outs', hb, hr, rfl⟩ := allOk_cons h
      obtain ⟨h1, h2, h3⟩ := frags_nodes cfg o p hp frags outs' hr
      obtain ⟨n, hn, rfl⟩ := Res.map_eq_ok.mp ((finish_frag cfg o p f).symm.trans hb)
      have hnw : n.WF := primNode_wf _ f n rfl hn
      obtain ⟨l, hl, rfl⟩ := primNode_ok hn
      have hfn : fragNode p f = .prim (encodeTag ⟨.universal, false, p.univNum⟩ false ++ l)
          (wireTag ⟨.universal, false, p.univNum⟩ false) f := by simp [fragNode, hl, wireTag]
      rw [List.map_cons, hfn]
      exact ⟨by simp [serList_cons, h1], ⟨hnw, h2⟩,
        ⟨notEoo_of_tag _ hnw (by right; left; simpa [TLV.tag, wireTag] using hp), h3⟩⟩

theorem decSegments_frags (p : PrimTy) : ∀ (frags : List Bytes),
    decSegments p.univNum (frags.map (fragNode p)) = .ok frags
  | [] => rfl
  | f :: frags => by simp [decSegments, decSegment, fragNode, decSegments_frags p frags, Except.map]

theorem decBitSegments_frags : ∀ (frags : List Bytes),
    decBitSegments (frags.map (fragNode .bitString)) = .ok frags
  | [] => rfl
  | f :: frags => by simp [decBitSegments, fragNode, PrimTy.univNum, decBitSegments_frags frags, Except.map]

theorem concatBitFrags_map : ∀ (frags : List (List Bool)),
    concatBitFrags (frags.map bitsToContent) = .ok frags.flatten
  | [] => by simp [concatBitFrags]
  | f :: frags => by
      simp [concatBitFrags, bitsFromContent_bitsToContent, concatBitFrags_map frags, Except.map]

theorem chunkBits_ne_nil (n fuel : Nat) (bs : List Bool) (hb : bs ≠ []) (hf : 0 < fuel) :
    chunkBits n fuel bs ≠ [] := by
  cases fuel with
  | zero => omega
  | succ f =>
    cases bs with
    | nil => exact absurd rfl hb
    | cons b r => simp [chunkBits]

theorem chunkBytes_ne_nil (n fuel : Nat) (bs : Bytes) (hb : bs ≠ []) (hf : 0 < fuel) :
    chunkBytes n fuel bs ≠ [] := by
  cases fuel with
  | zero => omega
  | succ f =>
    cases bs with
    | nil => exact absurd rfl hb
    | cons b r => simp [chunkBytes]

theorem encValue_bits_ok {cfg : EncCfg} {o : EncOpts} {bs : List Bool} {sub : Bytes} {ic : Bool}
    (h : encValue cfg o (.prim .bitString) (.bits bs) = .ok (sub, ic)) :
    (sub = bitsToContent bs ∧ ic = false) ∨
    (0 < o.maxChunk ∧ ic = true ∧ ∃ cs, sub = serList cs ∧ WFs cs ∧ NoEooL cs ∧ cs ≠ [] ∧
      cs = ((chunkBits (o.maxChunk * 8) bs.length bs).map bitsToContent).map (fragNode .bitString)) := by
  dsimp only [encValue] at h
  by_cases hcond : (o.maxChunk = 0 || (bs.length + 7) / 8 * 8 ≤ o.maxChunk * 8) = true
  · simp only [hcond, if_true, Except.ok.injEq, Prod.mk.injEq] at h
    exact .inl ⟨h.1.symm, h.2.symm⟩
  · simp only [hcond, Bool.false_eq_true, if_false] at h
    simp only [Bool.or_eq_true, decide_eq_true_eq, not_or, Nat.not_le] at hcond
    obtain ⟨outs, hb, hr⟩ := Res.map_eq_ok.mp h
    obtain ⟨rfl, rfl⟩ := Prod.mk.inj hr
    obtain ⟨h1, h2, h3⟩ := frags_nodes cfg o .bitString (by decide)
      ((chunkBits (o.maxChunk * 8) bs.length bs).map bitsToContent) outs (by rw [List.map_map]; exact hb)
    refine .inr ⟨by omega, rfl, _, h1, h2, h3, fun he => ?_, rfl⟩
    have hbne : bs ≠ [] := by rintro rfl; simp at hcond
    exact chunkBits_ne_nil (o.maxChunk * 8) bs.length bs hbne (List.length_pos_iff.mpr hbne)
      (List.map_eq_nil_iff.mp (List.map_eq_nil_iff.mp he))

/-- every string kind is segmented as OCTET STRING pieces: `fragNode (.str 4)` -/
theorem encValue_str_ok {cfg : EncCfg} {o : EncOpts} {k : Nat} {bs sub : Bytes} {ic : Bool}
    (h : encValue cfg o (.prim (.str k)) (.str bs) = .ok (sub, ic)) :
    (sub = bs ∧ ic = false) ∨
    (0 < o.maxChunk ∧ ic = true ∧ ∃ cs, sub = serList cs ∧ WFs cs ∧ NoEooL cs ∧ cs ≠ [] ∧
      cs = (chunkBytes o.maxChunk bs.length bs).map (fragNode (.str 4))) := by
  dsimp only [encValue] at h
  by_cases hcond : (o.maxChunk = 0 || bs.length ≤ o.maxChunk) = true
  · simp only [hcond, if_true, Except.ok.injEq, Prod.mk.injEq] at h
    exact .inl ⟨h.1.symm, h.2.symm⟩
  · simp only [hcond, Bool.false_eq_true, if_false] at h
    simp only [Bool.or_eq_true, decide_eq_true_eq, not_or, Nat.not_le] at hcond
    obtain ⟨outs, hb, hr⟩ := Res.map_eq_ok.mp h
    obtain ⟨rfl, rfl⟩ := Prod.mk.inj hr
    obtain ⟨h1, h2, h3⟩ := frags_nodes cfg o (.str 4) (by decide) _ outs hb
    refine .inr ⟨by omega, rfl, _, h1, h2, h3, fun he => ?_, rfl⟩
    have hbne : bs ≠ [] := by rintro rfl; simp at hcond
    exact chunkBytes_ne_nil o.maxChunk bs.length bs hbne (List.length_pos_iff.mpr hbne)
      (List.map_eq_nil_iff.mp he)

theorem encValue_oid_ok {cfg : EncCfg} {o : EncOpts} {arcs : List Nat} {sub : Bytes} {ic : Bool}
    (h : encValue cfg o (.prim .oid) (.oid arcs) = .ok (sub, ic)) : oidToContent arcs = some sub ∧ ic = false := by
  dsimp only [encValue] at h
  cases hc : oidToContent arcs with
  | none => rw [hc] at h; cases h
  | some c => rw [hc] at h; cases h; exact ⟨rfl, rfl⟩

theorem ok_of_map_constructed {α} {x : Res α} {g : α → Bytes} {sub : Bytes} {ic : Bool}
    (h : x.map (fun a => (g a, true)) = .ok (sub, ic)) : ∃ a, x = .ok a ∧ sub = g a ∧ ic = true := by
  obtain ⟨a, ha, hp⟩ := Res.map_eq_ok.mp h
  obtain ⟨rfl, rfl⟩ := Prod.mk.inj hp
  exact ⟨a, ha, rfl, rfl⟩

theorem encValue_seq_ok {cfg : EncCfg} {o : EncOpts} {fs : Fields} {vs : List Val} {sub : Bytes} {ic : Bool}
    (h : encValue cfg o (.seq fs) (.seq vs) = .ok (sub, ic)) : encFields cfg o fs vs = .ok sub ∧ ic = true := by
  obtain ⟨b, hb, rfl, rfl⟩ := ok_of_map_constructed (g := id) h
  exact ⟨hb, rfl⟩

theorem encValue_choice_ok {cfg : EncCfg} {o : EncOpts} {fs : Fields} {i : Nat} {w : Val} {sub : Bytes} {ic : Bool}
    (h : encValue cfg o (.choice fs) (.choice i w) = .ok (sub, ic)) : encAlt cfg o fs i w = .ok sub ∧ ic = true := by
  obtain ⟨b, hb, rfl, rfl⟩ := ok_of_map_constructed (g := id) h
  exact ⟨hb, rfl⟩

theorem encValue_set_ok {cfg : EncCfg} {o : EncOpts} {fs : Fields} {vs : List Val} {sub : Bytes} {ic : Bool}
    (h : encValue cfg o (.set fs) (.seq vs) = .ok (sub, ic)) :
    (if cfg.setOrder = .declared then encFields cfg o fs vs = .ok sub
      else ∃ ms, encSetMembers cfg o cfg.setOrder fs vs = .ok ms ∧
        sub = ((ms.mergeSort fun a b => tagSetLe (outerKey a.1) (outerKey b.1)).map (·.2)).flatten) ∧
      ic = true := by
  rw [encValue_set] at h
  by_cases ho : cfg.setOrder = .declared
  · rw [if_pos ho] at h ⊢
    obtain ⟨b, hb, rfl, rfl⟩ := ok_of_map_constructed (g := id) h
    exact ⟨hb, rfl⟩
  · rw [if_neg ho] at h ⊢
    obtain ⟨ms, hb, rfl, rfl⟩ := ok_of_map_constructed h
    exact ⟨⟨ms, hb, rfl⟩, rfl⟩

/-- the SEQUENCE OF encoder: the `ifNotEmpty` answer for an empty value is what the loop over no
    element gives anyway -/
theorem encValue_seqOf (cfg : EncCfg) (o : EncOpts) (t : Ty) (vs : List Val) :
    encValue cfg o (.seqOf t) (.seqOf vs) =
      (allOk (vs.map fun v => finishItem cfg { o with ifNotEmpty := false } t
        (encValue cfg { o with ifNotEmpty := false } t v))).map fun cs => (cs.flatten, true) := by
  cases vs with
  | nil => dsimp only [encValue]; split <;> rfl
  | cons v vs => dsimp only [encValue]; rw [List.isEmpty_cons, Bool.and_false, if_neg Bool.false_ne_true]

theorem encValue_seqOf_ok {cfg : EncCfg} {o : EncOpts} {t : Ty} {vs : List Val} {sub : Bytes} {ic : Bool}
    (h : encValue cfg o (.seqOf t) (.seqOf vs) = .ok (sub, ic)) :
    ∃ bs, allOk (vs.map fun v => finishItem cfg { o with ifNotEmpty := false } t
      (encValue cfg { o with ifNotEmpty := false } t v)) = .ok bs ∧ sub = bs.flatten ∧ ic = true :=
  ok_of_map_constructed (encValue_seqOf cfg o t vs ▸ h)

theorem encValue_setOf_ok {cfg : EncCfg} {o : EncOpts} {t : Ty} {vs : List Val} {sub : Bytes} {ic : Bool}
    (h : encValue cfg o (.setOf t) (.seqOf vs) = .ok (sub, ic)) :
    ∃ bs, allOk (vs.map fun v => finishItem cfg { o with ifNotEmpty := false } t
      (encValue cfg { o with ifNotEmpty := false } t v)) = .ok bs ∧
      sub = (if cfg.sortSetOf then sortSetOfChunks bs else bs).flatten ∧ ic = true :=
  ok_of_map_constructed h

theorem encFields_cons_ok {cfg : EncCfg} {o o' : EncOpts} {k : FKind} {t : Ty} {rest : Fields} {v : Val}
    {vs : List Val} {b : Bytes}
    (ho : (if cfg.seqOmitEmpty = true then { o with ifNotEmpty := k.isOpt } else o) = o') :
    encFields cfg o (.cons k t rest) (v :: vs) = .ok b ↔
      (skipField k v = true ∧ encFields cfg o rest vs = .ok b) ∨
      (skipField k v = false ∧ ∃ b1 b2, finishItem cfg o' t (encValue cfg o' t v) = .ok b1 ∧
        encFields cfg o' rest vs = .ok b2 ∧ b = b1 ++ b2) := by
  rw [encFields]
  cases skipField k v
  · rw [if_neg Bool.false_ne_true]
    dsimp only
    rw [ho]
    constructor
    · intro h
      cases hb1 : finishItem cfg o' t (encValue cfg o' t v) <;> rw [hb1] at h
      · cases h
      · obtain ⟨b2, hb2, rfl⟩ := Res.map_eq_ok.mp h
        exact .inr ⟨rfl, _, b2, rfl, hb2, rfl⟩
    · rintro (⟨hc, _⟩ | ⟨_, b1, b2, hb1, hb2, rfl⟩)
      · cases hc
      · rw [hb1, hb2]; rfl
  · rw [if_pos rfl]
    exact ⟨fun h => .inl ⟨rfl, h⟩, fun h => h.elim (·.2) (fun h => nomatch h.1)⟩

theorem encSetMembers_cons_ok {cfg : EncCfg} {o : EncOpts} {ord : SetOrder} {k : FKind} {t : Ty} {rest : Fields}
    {v : Val} {vs : List Val} {ms : List (TagSet × Bytes)} :
    encSetMembers cfg o ord (.cons k t rest) (v :: vs) = .ok ms ↔
      (skipField k v = true ∧ encSetMembers cfg o ord rest vs = .ok ms) ∨
      (skipField k v = false ∧ ∃ b1 ms2,
        finishItem cfg { o with ifNotEmpty := k.isOpt } t (encValue cfg { o with ifNotEmpty := k.isOpt } t v) = .ok b1 ∧
        encSetMembers cfg o ord rest vs = .ok ms2 ∧ ms = (setKey ord t v, b1) :: ms2) := by
  rw [encSetMembers]
  cases skipField k v
  · rw [if_neg Bool.false_ne_true]
    dsimp only
    constructor
    · intro h
      cases hb1 : finishItem cfg { o with ifNotEmpty := k.isOpt } t
        (encValue cfg { o with ifNotEmpty := k.isOpt } t v) <;> rw [hb1] at h
      · cases h
      · obtain ⟨ms2, hb2, rfl⟩ := Res.map_eq_ok.mp h
        exact .inr ⟨rfl, _, ms2, rfl, hb2, rfl⟩
    · rintro (⟨hc, _⟩ | ⟨_, b1, ms2, hb1, hb2, rfl⟩)
      · cases hc
      · rw [hb1, hb2]; rfl
  · rw [if_pos rfl]
    exact ⟨fun h => .inl ⟨rfl, h⟩, fun h => h.elim (·.2) (fun h => nomatch h.1)⟩

variable (cfg : EncCfg) (dcfg : DecCfg) (o : EncOpts) (hR : Region cfg dcfg o)
include hR

theorem good_of_item {t : Ty} {v : Val} {b : Bytes} (hr : t.reg false cfg o.defMode = true) (hw : t.WF = true)
    (ih : ∀ sub ic, encValue cfg o t v = .ok (sub, ic) → ContentOk cfg dcfg t v sub ic)
    (h : finishItem cfg o t (encValue cfg o t v) = .ok b) : Good dcfg t v b := by
  obtain ⟨sub, ic, he⟩ := finish_ok h
  rw [he] at h
  exact item_of_content cfg dcfg o hR t hr hw v sub ic b (ih sub ic he) h

theorem prim_contentOk (p : PrimTy) (v : Val) (sub : Bytes) (ic : Bool)
    (hr : (Ty.prim p).reg false cfg o.defMode = true) (ht : HasType (.prim p) v = true)
    (h : encValue cfg o (.prim p) v = .ok (sub, ic)) : ContentOk cfg dcfg (.prim p) v sub ic := by
  cases p with
  | boolean =>
    obtain ⟨b, rfl⟩ := hasType_bool ht
    cases h
    exact contentOk_prim (fun hd tg => hR.bool b hd tg)
  | integer =>
    obtain ⟨z, rfl⟩ := hasType_int ht
    cases h
    exact contentOk_prim (fun hd tg => by simp [decPrim, intFromBytes_intToBytes])
  | enumerated =>
    obtain ⟨z, rfl⟩ := hasType_enum ht
    cases h
    exact contentOk_prim (fun hd tg => by simp [decPrim, intFromBytes_intToBytes])
  | null =>
    cases hasType_null ht
    cases h
    exact contentOk_prim (fun hd tg => by simp [decPrim])
  | oid =>
    obtain ⟨arcs, rfl⟩ := hasType_oid ht
    obtain ⟨hc, rfl⟩ := encValue_oid_ok h
    exact contentOk_prim (fun hd tg => by
      simp [decPrim, oidFromContent_oidToContent arcs sub hc, Except.map])
  | real =>
    simp [Ty.reg] at hr
  | bitString =>
    obtain ⟨bs, rfl⟩ := hasType_bits ht
    rcases encValue_bits_ok h with ⟨rfl, rfl⟩ | ⟨hmc, rfl, _, rfl, h2, h3, hne, rfl⟩
    · exact contentOk_prim (fun hd tg => by
        simp [decPrim, bitsFromContent_bitsToContent, Except.map])
    · have hcb : dcfg.consBits = true := by
        rcases hR.chunk with h0 | h0
        · omega
        · exact h0.1
      refine contentOk_cons rfl (List.cons_ne_nil _ _) h2 h3 fun hd tg indef => ?_
      simp only [Ty.base, decBody, decPrim, List.isEmpty_eq_false_iff.mpr hne, Bool.and_false,
        Bool.false_eq_true, if_false, hcb, if_true, decBitSegments_frags, concatBitFrags_map]
      simp [Except.map, chunkBits_flatten (o.maxChunk * 8) (by omega) bs.length bs (Nat.le_refl _)]
  | str k =>
    obtain ⟨bs, rfl⟩ := hasType_str ht
    rcases encValue_str_ok h with ⟨rfl, rfl⟩ | ⟨hmc, rfl, _, rfl, h2, h3, _, rfl⟩
    · exact contentOk_prim (fun hd tg => by simp [decPrim])
    · have hck : dcfg.consStr.contains k = true := by
        rcases hR.chunk with h0 | h0
        · omega
        · have hk : allStrKinds.contains k = true := by simpa [Ty.reg] using hr
          exact List.all_eq_true.mp h0.2 k (by simpa using hk)
      refine contentOk_cons rfl (List.cons_ne_nil _ _) h2 h3 fun hd tg indef => ?_
      have hseg : decSegments 4 _ = _ := decSegments_frags (.str 4) (chunkBytes o.maxChunk bs.length bs)
      simp only [Ty.base, decBody, decPrim, hck, if_true, hseg]
      simp [Except.map, chunkBytes_flatten o.maxChunk hmc bs.length bs (Nat.le_refl _)]

mutual
theorem rt_content : ∀ (t : Ty) (v : Val) (sub : Bytes) (ic : Bool),
    t.reg false cfg o.defMode = true → t.WF = true → HasType t v = true →
    encValue cfg o t v = .ok (sub, ic) → ContentOk cfg dcfg t v sub ic
  | .tagged e c n t => fun v sub ic hr hw ht h =>
      contentOk_tagged e c n (rt_content t v sub ic (reg_tagged hr) (wf_tagged hw) ht h)
  | .prim p => fun v sub ic hr _ ht h => prim_contentOk cfg dcfg o hR p v sub ic hr ht h
  | .any => fun _ _ _ hr _ _ _ => by simp [Ty.reg] at hr
  | .seq fs => fun v sub ic hr hw ht h => by
      obtain ⟨vs, rfl, hvs⟩ := hasType_seq ht
      obtain ⟨hb, rfl⟩ := encValue_seq_ok h
      simp only [Ty.WF, Bool.and_eq_true] at hw
      obtain ⟨cs, rfl, h2, h3, h4⟩ := rt_fields fs vs sub 0 hr hw.1 hvs hb
      obtain ⟨hdec, _⟩ := seq_dispatch dcfg fs vs cs 0 h4 hvs hw.2
      exact contentOk_cons rfl (List.cons_ne_nil _ _) h2 h3 fun hd tg indef => by
        simp [Ty.base, decBody, hdec, Except.map]
  | .set fs => fun v sub ic hr hw ht h => by
      obtain ⟨vs, rfl, hvs⟩ := hasType_set ht
      obtain ⟨hb, rfl⟩ := encValue_set_ok h
      rw [if_pos hR.setOrd] at hb
      simp only [Ty.WF, Bool.and_eq_true] at hw
      obtain ⟨cs, rfl, h2, h3, h4⟩ := rt_fields fs vs sub 0 hr hw.1 hvs hb
      obtain ⟨hdec, hap⟩ := set_dispatch dcfg fs vs cs h4 hvs hw.2
      exact contentOk_cons rfl (List.cons_ne_nil _ _) h2 h3 fun hd tg indef => by
        simp [Ty.base, decBody, hdec, hap]
  | .seqOf t => fun v sub ic hr hw ht h => by
      obtain ⟨vs, rfl, hvs⟩ := hasType_seqOf ht
      obtain ⟨bs, hb, rfl, rfl⟩ := encValue_seqOf_ok h
      rw [opts_eq o hR.ine] at hb
      obtain ⟨cs, h1, h2, h3, h4⟩ := elems_good dcfg t _ vs bs (fun v b hm hf =>
        good_of_item cfg dcfg o hR hr hw (fun sub ic he => rt_content t v sub ic hr hw (hvs v hm) he) hf) hb
      rw [h1]
      exact contentOk_cons rfl (List.cons_ne_nil _ _) h2 h3 fun hd tg indef => by
        simp [Ty.base, decBody, h4, Except.map]
  | .setOf t => fun v sub ic hr hw ht h => by
      obtain ⟨vs, rfl, hvs⟩ := hasType_setOf ht
      obtain ⟨bs, hb, rfl, rfl⟩ := encValue_setOf_ok h
      rw [opts_eq o hR.ine] at hb
      rw [hR.sortOf, if_neg Bool.false_ne_true]
      obtain ⟨cs, h1, h2, h3, h4⟩ := elems_good dcfg t _ vs bs (fun v b hm hf =>
        good_of_item cfg dcfg o hR hr hw (fun sub ic he => rt_content t v sub ic hr hw (hvs v hm) he) hf) hb
      rw [h1]
      exact contentOk_cons rfl (List.cons_ne_nil _ _) h2 h3 fun hd tg indef => by
        simp [Ty.base, decBody, h4, Except.map]
  | .choice fs => fun v sub ic hr hw ht h => by
      obtain ⟨i, w, rfl, hiw⟩ := hasType_choice ht
      obtain ⟨hb, rfl⟩ := encValue_choice_ok h
      simp only [Ty.WF, Bool.and_eq_true] at hw
      obtain ⟨kd, t, hg, x, hbx, hxw, hxn, hxt, hxd⟩ := rt_alt fs i w sub hr hw.1.1 hiw hb
      have hdisp := alt_dispatch dcfg x fs i 0 kd t hw.1.2 hg hxt
      rw [hxd] at hdisp
      simp only [Except.map, Nat.zero_add] at hdisp
      rw [hbx]
      exact contentOk_single rfl hxw hxn (fun hd tg indef => by simp [Ty.base, decBody, hdisp])
        (tagIn_choice x.tag fs i kd t (regF_plain false cfg o.defMode fs hr) hg hxt) (by simp [decTy, hdisp])
theorem rt_fields : ∀ (fs : Fields) (vs : List Val) (b : Bytes) (k : Nat),
    Fields.reg false cfg o.defMode fs = true → Fields.WF fs = true → HasFields fs vs = true →
    encFields cfg o fs vs = .ok b →
    ∃ cs, b = serList cs ∧ WFs cs ∧ NoEooL cs ∧ Members (ElemOk dcfg) k fs vs cs
  | .nil, [] => fun b k _ _ _ h => by
      simp only [encFields, Except.ok.injEq] at h
      subst h
      exact ⟨[], by simp [serList], trivial, trivial, by simp [Members]⟩
  | .nil, _ :: _ => fun _ _ _ _ hf _ => nomatch hf
  | .cons _ _ _, [] => fun _ _ _ _ hf _ => by simp [HasFields] at hf
  | .cons kd t rest, v :: vs => fun b k hr hw hf h => by
      simp only [Fields.reg, Bool.and_eq_true] at hr
      have hw' := Fields.WF_cons hw
      rcases (encFields_cons_ok (if_neg (by simp [hR.seqOmit]))).mp h with ⟨hs, h⟩ | ⟨hs, b1, b2, hb1, hb2, rfl⟩
      · obtain ⟨cs, h1, h2, h3, h4⟩ :=
          rt_fields rest vs b (k + 1) hr.2 hw'.2.1 (hasFields_skipped hf hs).1 h
        exact ⟨cs, h1, h2, h3, (members_skipped hs).mpr h4⟩
      · obtain ⟨hty, hfr⟩ := hasFields_present hf hs
        obtain ⟨x, hbx, hxw, hxn, hxt, hxd⟩ := good_of_item cfg dcfg o hR hr.1 hw'.1
          (fun sub ic he => rt_content t v sub ic hr.1 hw'.1 hty he) hb1
        obtain ⟨cs, h1, h2, h3, h4⟩ := rt_fields rest vs b2 (k + 1) hr.2 hw'.2.1 hfr hb2
        exact ⟨x :: cs, by simp [serList_cons, hbx, h1], ⟨hxw, h2⟩, ⟨hxn, h3⟩,
          (members_present hs).mpr ⟨x, cs, rfl, ⟨hxt, hxd⟩, h4⟩⟩
theorem rt_alt : ∀ (fs : Fields) (i : Nat) (v : Val) (b : Bytes),
    Fields.reg false cfg o.defMode fs = true → Fields.WF fs = true → HasAlt fs i v = true →
    encAlt cfg o fs i v = .ok b →
    ∃ kd t, fs.get? i = some (kd, t) ∧ Good dcfg t v b
  | .nil, _ => fun _ _ _ _ ha _ => nomatch ha
  | .cons kd t rest, 0 => fun v b hr hw ha h => by
      simp only [Fields.reg, Bool.and_eq_true] at hr
      exact ⟨kd, t, rfl, good_of_item cfg dcfg o hR hr.1 (Fields.WF_cons hw).1
        (fun sub ic he => rt_content t v sub ic hr.1 (Fields.WF_cons hw).1 ha he) h⟩
  | .cons kd t rest, i + 1 => fun v b hr hw ha h => by
      simp only [Fields.reg, Bool.and_eq_true] at hr
      exact rt_alt rest i v b hr.2 (Fields.WF_cons hw).2.1 ha h
end

theorem encode_good (t : Ty) (v : Val) (b : Bytes)
    (hreg : t.reg false cfg o.defMode = true) (hwf : t.WF = true) (hty : HasType t v = true)
    (h : finishItem cfg o t (encValue cfg o t v) = .ok b) : Good dcfg t v b :=
  good_of_item cfg dcfg o hR hreg hwf (fun sub ic he => rt_content cfg dcfg o hR t v sub ic hreg hwf hty he) h

theorem roundtrip_item (hp : dcfg.parse.allowIndef = true) (t : Ty) (v : Val) (b tail : Bytes)
    (hreg : t.reg false cfg o.defMode = true) (hwf : t.WF = true) (hty : HasType t v = true)
    (h : finishItem cfg o t (encValue cfg o t v) = .ok b) :
    decodeOne dcfg t (b ++ tail) = .ok (v, tail) := by
  obtain ⟨x, rfl, hxw, _, _, hxd⟩ := encode_good cfg dcfg o hR t v _ hreg hwf hty h
  rw [decodeOne_ser dcfg t x tail hxw (Or.inl hp), hxd]
  rfl

end Asn1
