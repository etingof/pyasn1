/-
  Proofs.StreamParse — the framing parser as a stream program refines the list-level parser:
  wherever `parse` (Asn1/TLV.lean) succeeds on the octets at the current position, running `parseP`
  on the stream yields the same tree and ends exactly where `parse` left off (`run_parseP`).
  Hence everything proved about `parse` on well-formed input (Proofs/Parse.lean) holds for the
  streaming decoder's framing, and by `runSched_eq` under every arrival schedule.
-/
import Proofs.Stream
import Proofs.Fuel

namespace Asn1.Stream

variable {ε α β : Type}

def At (d : Bytes) (pos : Nat) (bs : Bytes) : Prop := pos ≤ d.length ∧ d.drop pos = bs

theorem At.length {d : Bytes} {pos : Nat} {bs : Bytes} (h : At d pos bs) :
    pos + bs.length = d.length := by
  rw [← h.2, List.length_drop, Nat.add_sub_cancel' h.1]

theorem At.advance {d : Bytes} {pos : Nat} {x rest : Bytes} (h : At d pos (x ++ rest)) :
    At d (pos + x.length) rest := by
  have hl := h.length
  rw [List.length_append, ← Nat.add_assoc] at hl
  refine ⟨hl ▸ Nat.le_add_right .., ?_⟩
  rw [← List.drop_drop, h.2, drop_append_self]

theorem At.pos_add {d : Bytes} {p q : Nat} {x y e : Bytes} (h1 : At d p (x ++ e)) (h2 : At d q (y ++ e)) :
    p + x.length = q + y.length := by
  have a := h1.length
  have b := h2.length
  rw [List.length_append, ← Nat.add_assoc] at a b
  exact Nat.add_right_cancel (a.trans b.symm)

theorem readAns_at (k : Kind) (d : Bytes) (cl : Bool) (pos : Nat) (x rest : Bytes)
    (h : At d pos (x ++ rest)) : readAns k d cl pos x.length = .ok x := by
  have hl := h.length
  rw [List.length_append] at hl
  rw [readAns_of_le (by omega), h.2, take_append_self]

theorem run_read_at {k : Kind} {B : Nat} {d : Bytes} {cl : Bool} (s : St ε) (n : Nat) {x rest : Bytes}
    {f : Bytes → Prog ε α} (h : At d s.pos (x ++ rest)) (hn : n = x.length) :
    run k B d cl (.read n f) s = run k B d cl (f x) { s with pos := s.pos + n } := by
  subst hn
  rw [run_read, readAns_at k d cl s.pos x rest h]

theorem bind_read (n : Nat) (f : Bytes → Prog ε α) (g : α → Prog ε β) :
    (Prog.read n f).bind g = .read n fun b => (f b).bind g := rfl

theorem bind_pure (a : α) (g : α → Prog ε β) : (Prog.pure a : Prog ε α).bind g = g a := rfl

theorem bind_assoc (p : Prog ε α) (g : α → Prog ε β) {γ : Type} (h : β → Prog ε γ) :
    (p.bind g).bind h = p.bind fun a => (g a).bind h := by
  induction p with
  | pure | fail => rfl
  | emit _ _ ih | seekBack _ _ ih | mark _ ih => simp only [Prog.bind, ih]
  | read _ _ ih | readAll _ _ ih | eos _ ih | tell _ ih | toMark _ ih =>
    simp only [Prog.bind]; congr; funext b; exact ih b

/-! Each header program reads exactly the octets that determine the answer of the list-level
decoder (`ReadsPrefix`), so it is enough to follow it on such a block `u`. -/

theorem run_tagNumP (k : Kind) (B : Nat) (d : Bytes) (cl : Bool) :
    ∀ (u : Bytes) (acc num : Nat), (∀ r, decodeTagNum acc (u ++ r) = .ok (num, r)) →
    ∀ (tf : Nat), u.length ≤ tf → ∀ (hb extra : Bytes) (s : St ε) (g : Nat × Bytes → Prog ε β),
      At d s.pos (u ++ extra) →
      run k B d cl ((tagNumP tf acc hb).bind g) s =
        run k B d cl (g (num, hb ++ u)) { s with pos := s.pos + u.length } := by
  intro u
  induction u with
  | nil => intro acc num hu; exact nomatch hu []
  | cons b rest ih =>
    intro acc num hu tf htf hb extra s g hat
    obtain ⟨tf', rfl⟩ := Nat.exists_eq_add_one.mpr (Nat.zero_lt_of_lt htf)
    have hat' : At d s.pos ([b] ++ (rest ++ extra)) := hat
    rw [tagNumP, bind_read]
    rw [run_read_at s 1 hat' rfl]
    by_cases hlt : b.toNat < 128
    · have h0 := hu []
      rw [List.append_nil, decodeTagNum, if_pos hlt] at h0
      obtain ⟨rfl, rfl⟩ := Prod.mk.inj (Except.ok.inj h0)
      simp only [hlt, if_true, bind_pure, List.length_singleton]
    · have hu' : ∀ r, decodeTagNum (acc * 128 + b.toNat % 128) (rest ++ r) = .ok (num, r) := fun r => by
        have := hu r
        rwa [List.cons_append, decodeTagNum, if_neg hlt] at this
      simp only [hlt, if_false]
      rw [ih _ num hu' tf' (Nat.le_of_succ_le_succ htf) (hb ++ [b]) extra
        { s with pos := s.pos + 1 } g hat'.advance]
      simp [Nat.add_assoc, Nat.add_comm 1]

theorem run_tagP {k : Kind} {B : Nat} {d : Bytes} {cl : Bool} {u : Bytes} {tag : Tag}
    (hu : ∀ r, decodeTag (u ++ r) = .ok (tag, r)) {tf : Nat} (htf : u.length ≤ tf) {extra : Bytes}
    (s : St ε) {g : Tag × Bytes → Prog ε β} (hat : At d s.pos (u ++ extra)) :
    run k B d cl ((tagP tf).bind g) s = run k B d cl (g (tag, u)) { s with pos := s.pos + u.length } := by
  cases u with
  | nil => exact nomatch hu []
  | cons b rest =>
    have hat' : At d s.pos ([b] ++ (rest ++ extra)) := hat
    rw [tagP, bind_read]
    rw [run_read_at s 1 hat' rfl]
    by_cases h31 : b.toNat % 32 = 31
    · -- long form: the tag number follows in `rest`
      have hnum : ∀ r, decodeTagNum 0 (rest ++ r) = .ok (tag.num, r) ∧
          tag = ⟨TagClass.ofBits b.toNat, decide (b.toNat / 32 % 2 = 1), tag.num⟩ := fun r => by
        have := hu r
        rw [List.cons_append, decodeTag, if_pos h31] at this
        split at this
        next num r' hn =>
          obtain ⟨rfl, rfl⟩ := Prod.mk.inj (Except.ok.inj this)
          exact ⟨hn, rfl⟩
        next => exact nomatch this
      simp only [h31, if_true, bind_assoc, bind_pure]
      rw [run_tagNumP k B d cl rest 0 tag.num (fun r => (hnum r).1) tf
        (Nat.le_of_succ_le htf) [b] extra { s with pos := s.pos + 1 } _ hat'.advance,
        ← (hnum []).2]
      simp [Nat.add_assoc, Nat.add_comm 1]
    · have h0 := hu []
      rw [List.append_nil, decodeTag, if_neg h31] at h0
      obtain ⟨rfl, rfl⟩ := Prod.mk.inj (Except.ok.inj h0)
      simp only [h31, if_false, bind_pure, List.length_singleton]

theorem run_lenP {k : Kind} {B : Nat} {d : Bytes} {cl : Bool} {u : Bytes} {len : Len}
    (hu : ∀ r, decodeLength (u ++ r) = .ok (len, r)) {extra : Bytes} (s : St ε)
    {g : Len × Bytes → Prog ε β} (hat : At d s.pos (u ++ extra)) :
    run k B d cl (lenP.bind g) s = run k B d cl (g (len, u)) { s with pos := s.pos + u.length } := by
  cases u with
  | nil => exact nomatch hu []
  | cons b rest =>
    have hat' : At d s.pos ([b] ++ (rest ++ extra)) := hat
    rw [lenP, bind_read]
    rw [run_read_at s 1 hat' rfl]
    have h0 := hu []
    rw [List.append_nil, decodeLength] at h0
    by_cases h1 : b.toNat < 128
    · rw [if_pos h1] at h0
      obtain ⟨rfl, rfl⟩ := Prod.mk.inj (Except.ok.inj h0)
      simp only [h1, if_true, bind_pure, List.length_singleton]
    rw [if_neg h1] at h0
    by_cases h2 : b.toNat = 128
    · rw [if_pos h2] at h0
      obtain ⟨rfl, rfl⟩ := Prod.mk.inj (Except.ok.inj h0)
      simp only [h2, if_true, List.length_singleton]
      rfl
    rw [if_neg h2] at h0
    dsimp only at h0
    by_cases h3 : b.toNat % 128 ≤ rest.length
    · -- long form: the octets announced are all of `rest`
      rw [if_pos h3] at h0
      obtain ⟨rfl, hd⟩ := Prod.mk.inj (Except.ok.inj h0)
      have hsz : b.toNat % 128 = rest.length := Nat.le_antisymm h3 (List.drop_eq_nil_iff.mp hd)
      simp only [h1, h2, if_false, bind_read, bind_pure]
      rw [run_read_at { s with pos := s.pos + 1 } _ hat'.advance hsz,
        hsz, List.take_length]
      simp [Nat.add_assoc, Nat.add_comm 1]
    · rw [if_neg h3] at h0
      exact nomatch h0

/-- no cache drop can happen: not the wrapped kind, or all the data fits the read-ahead buffer -/
def NoDropK (k : Kind) (B : Nat) (d : Bytes) : Prop := k = .wrapped → d.length ≤ B

theorem setMark_nodrop {k : Kind} {B : Nat} {d : Bytes} (h : NoDropK k B d) (s : St ε)
    (hp : s.pos ≤ d.length) (hb : s.base = 0) : s.setMark k B = { s with mark := s.pos } := by
  unfold St.setMark
  have : ¬ (k = .wrapped ∧ B < s.pos - s.base) := by
    rintro ⟨hk, hlt⟩
    have := h hk
    omega
  simp [this]

/-- the test of `while substrate.tell() - original_position < length`, with `m` octets of the contents
    still to be read: the loop goes on while `m` is not 0 and then ends on the `bytesRead != length` check -/
theorem tell_lt {p orig n m : Nat} (h : p + (m + 1) = orig + n) : (p : Int) - orig < n := by omega

theorem tell_eq {p orig n : Nat} (h : p = orig + n) : (p : Int) - orig = n := by omega

/-- what `parseP` does after the header: the value part, by length form -/
def valueP (cfg : ParseCfg) (tf f : Nat) (tag : Tag) (hdr : Bytes) : Len → Prog ε TLV
  | .definite n =>
    if tag.constructed then
      .tell fun orig => (childrenDefP cfg tf f n orig).bind fun cs => .pure (.cons hdr tag false cs)
    else .read n fun c => .pure (.prim hdr tag c)
  | .indefinite =>
    if !cfg.allowIndef then .fail .malformed
    else if !tag.constructed then .fail .malformed
    else (childrenIndefP cfg tf f).bind fun cs => .pure (.cons hdr tag true cs)

theorem parseP_succ (cfg : ParseCfg) (tf f : Nat) :
    (parseP cfg tf (f + 1) : Prog ε TLV) =
      .mark ((tagP tf).bind fun th => lenP.bind fun lh => valueP cfg tf f th.1 (th.2 ++ lh.2) lh.1) := by
  rw [parseP]
  rfl

/-- the header: `parseP` marks the position, reads the octets `parse` keeps as the header and goes
    on with the value part, the contents unread before it -/
theorem run_header (cfg : ParseCfg) (k : Kind) (B : Nat) (d : Bytes) (cl : Bool) (tf f : Nat)
    (hnd : NoDropK k B d) {bs : Bytes} {tag : Tag} {len : Len} {r1 r2 extra : Bytes} {s : St ε}
    (hd : decodeTag bs = .ok (tag, r1)) (hl : decodeLength r1 = .ok (len, r2))
    (htf : bs.length ≤ tf) (hat : At d s.pos (bs ++ extra)) (hb : s.base = 0) :
    ∃ hdr, bs.take (bs.length - r2.length) = hdr ∧ At d (s.pos + hdr.length) (r2 ++ extra) ∧
      run k B d cl (parseP cfg tf (f + 1)) s =
        run k B d cl (valueP cfg tf f tag hdr len)
          { s with mark := s.pos, pos := s.pos + hdr.length } := by
  obtain ⟨u1, _, rfl, hu1⟩ := decodeTag_reads bs tag r1 hd
  obtain ⟨u2, _, rfl, hu2⟩ := decodeLength_reads r1 len r2 hl
  rw [List.append_assoc, List.append_assoc] at hat
  refine ⟨u1 ++ u2, by rw [← List.append_assoc, take_hdr], ?_, ?_⟩
  · rw [List.length_append, ← Nat.add_assoc]; exact hat.advance.advance
  rw [parseP_succ]
  simp only [run]
  rw [setMark_nodrop hnd s hat.1 hb,
    run_tagP hu1 (by simp only [List.length_append] at htf; omega) { s with mark := s.pos } hat,
    run_lenP hu2 { s with mark := s.pos, pos := s.pos + u1.length } hat.advance]
  simp [Nat.add_assoc]

theorem At.take {d : Bytes} {pos : Nat} {bs extra : Bytes} (h : At d pos (bs ++ extra)) (n : Nat) :
    At d pos (bs.take n ++ (bs.drop n ++ extra)) := by
  rw [← List.append_assoc, List.take_append_drop]; exact h

theorem At.drop {d : Bytes} {pos : Nat} {bs extra : Bytes} (h : At d pos (bs ++ extra)) {n : Nat}
    (hn : n ≤ bs.length) : At d (pos + n) (bs.drop n ++ extra) := by
  have := (h.take n).advance
  rwa [List.length_take_of_le hn] at this

/-- **refinement**, for the three parsers at once: where the list-level parser succeeds on the octets
    at the current position, the stream program returns the same trees and stops where the parser
    stopped -/
theorem run_framing (cfg : ParseCfg) (k : Kind) (B : Nat) (d : Bytes) (cl : Bool) (tf : Nat)
    (hnd : NoDropK k B d) : ∀ fuel : Nat,
    (∀ (bs : Bytes) (t : TLV) (r : Bytes), parse cfg fuel bs = .ok (t, r) → bs.length ≤ tf →
      ∀ (extra : Bytes) (s : St ε), At d s.pos (bs ++ extra) → s.base = 0 →
        ∃ s', run k B d cl (parseP cfg tf fuel) s = .done t s' ∧ At d s'.pos (r ++ extra) ∧
          s'.base = 0 ∧ s'.out = s.out) ∧
    (∀ (content : Bytes) (cs : List TLV), parseAll cfg fuel content = .ok cs → content.length ≤ tf →
      ∀ (extra : Bytes) (s : St ε) (orig n : Nat), At d s.pos (content ++ extra) → s.base = 0 →
        s.pos + content.length = orig + n →
        ∃ s', run k B d cl (childrenDefP cfg tf fuel n orig) s = .done cs s' ∧
          (At d s'.pos extra ∧ s'.pos = orig + n) ∧ s'.base = 0 ∧ s'.out = s.out) ∧
    (∀ (bs : Bytes) (cs : List TLV) (r : Bytes), parseUntilEoo cfg fuel bs = .ok (cs, r) →
      bs.length ≤ tf → ∀ (extra : Bytes) (s : St ε), At d s.pos (bs ++ extra) → s.base = 0 →
        ∃ s', run k B d cl (childrenIndefP cfg tf fuel) s = .done cs s' ∧ At d s'.pos (r ++ extra) ∧
          s'.base = 0 ∧ s'.out = s.out) := by
  refine parsers_ok_induct cfg ?prim ?consDef ?consIndef ?nil ?cons ?eoo ?more
  case prim =>
    -- one read of the contents
    intro f bs tag r1 n r2 hd hl hn hc htf extra s hat hb
    obtain ⟨hdr, he, hat2, hrun⟩ := run_header cfg k B d cl tf f hnd hd hl htf hat hb
    rw [he, hrun]
    simp only [valueP, hc, Bool.false_eq_true, if_false]
    rw [run_read_at _ n (hat2.take n) (List.length_take_of_le hn).symm]
    exact ⟨_, rfl, hat2.drop hn, hb, rfl⟩
  case consDef =>
    -- the components, which must end where the length says
    intro f bs tag r1 n r2 cs hd hl hn hc ih htf extra s hat hb
    obtain ⟨hdr, he, hat2, hrun⟩ := run_header cfg k B d cl tf f hnd hd hl htf hat hb
    have := header_consumes hd hl
    obtain ⟨s', hr, hat', hb', ho'⟩ := ih
      (Nat.le_trans (List.length_take_le' ..) (Nat.le_trans (Nat.le_of_add_right_le this) htf))
      (r2.drop n ++ extra) { s with mark := s.pos, pos := s.pos + hdr.length } (s.pos + hdr.length - s.base) n
      (hat2.take n) hb (by simp only [List.length_take_of_le hn, hb, Nat.sub_zero])
    rw [he, hrun]
    dsimp only [valueP]
    rw [if_pos hc]
    dsimp only [run]
    rw [run_bind_done hr]
    exact ⟨s', rfl, hat'.1, hb', ho'⟩
  case consIndef =>
    -- the components up to the end-of-octets marker
    intro f bs tag r1 r2 cs rest hd hl hi hc ih htf extra s hat hb
    obtain ⟨hdr, he, hat2, hrun⟩ := run_header cfg k B d cl tf f hnd hd hl htf hat hb
    have := header_consumes hd hl
    obtain ⟨s', hr, hat', hb', ho'⟩ := ih (Nat.le_trans (Nat.le_of_add_right_le this) htf) extra
      { s with mark := s.pos, pos := s.pos + hdr.length } hat2 hb
    rw [he, hrun]
    simp only [valueP, hi, hc, Bool.not_true, Bool.false_eq_true, if_false]
    rw [run_bind_done hr]
    exact ⟨s', rfl, hat', hb', ho'⟩
  case nil =>
    intro f _ extra s orig n hat hb hpos
    dsimp only [childrenDefP, run]
    rw [hb, Nat.sub_zero]
    rw [List.length_nil, Nat.add_zero] at hpos
    rw [if_neg (by rw [tell_eq hpos]; exact Int.lt_irrefl _), if_pos (tell_eq hpos)]
    exact ⟨s, rfl, ⟨hat, hpos⟩, hb, rfl⟩
  case cons =>
    intro f bs c rest cs' hne hp ihp iha htf extra s orig n hat hb hpos
    obtain ⟨b, bs, rfl⟩ := List.exists_cons_of_ne_nil hne
    have := parse_consumes cfg f _ c rest hp
    obtain ⟨s1, hr1, hat1, hb1, ho1⟩ := ihp htf extra s hat hb
    obtain ⟨s2, hr2, hat2, hb2, ho2⟩ := iha (Nat.le_trans (Nat.le_of_add_right_le this) htf) extra s1 orig n hat1 hb1
      ((hat1.pos_add hat).trans hpos)
    dsimp only [childrenDefP, run]
    rw [hb, Nat.sub_zero, if_pos (tell_lt hpos), run_bind_done hr1, run_bind_done hr2]
    exact ⟨s2, rfl, hat2, hb2, by rw [ho2, ho1]⟩
  case eoo =>
    -- the probe reads the two octets `parseUntilEoo` looks at
    intro f bs h2 he htf extra s hat hb
    simp only [childrenIndefP]
    rw [run_read_at s 2 (hat.take 2) (List.length_take_of_le h2).symm, if_pos he]
    exact ⟨_, rfl, hat.drop h2, hb, rfl⟩
  case more =>
    intro f bs c rest cs' r' h2 he hp ihp ihu htf extra s hat hb
    have := parse_consumes cfg f _ c rest hp
    obtain ⟨s1, hr1, hat1, hb1, ho1⟩ := ihp htf extra s hat hb
    obtain ⟨s2, hr2, hat2, hb2, ho2⟩ := ihu (Nat.le_trans (Nat.le_of_add_right_le this) htf) extra s1 hat1 hb1
    obtain ⟨pos, mark, base, out⟩ := s
    obtain rfl : base = 0 := hb
    simp only [childrenIndefP]
    -- not the marker: the two octets are put back
    rw [run_read_at _ 2 (hat.take 2) (List.length_take_of_le h2).symm, if_neg he, run_seekBack]
    simp only [Nat.sub_zero, Nat.le_add_left, if_true, Nat.add_sub_cancel]
    rw [run_bind_done hr1, run_bind_done hr2]
    exact ⟨s2, rfl, hat2, hb2, by rw [ho2, ho1]⟩

theorem run_parseP (cfg : ParseCfg) (k : Kind) (B : Nat) (d : Bytes) (cl : Bool) (tf : Nat)
    (hnd : NoDropK k B d) (fuel : Nat) (bs : Bytes) (t : TLV) (r : Bytes) :
    parse cfg fuel bs = .ok (t, r) → bs.length ≤ tf →
    ∀ (extra : Bytes) (s : St ε), At d s.pos (bs ++ extra) → s.base = 0 →
      ∃ s', run k B d cl (parseP cfg tf fuel) s = .done t s' ∧ At d s'.pos (r ++ extra) ∧
        s'.base = 0 ∧ s'.out = s.out :=
  (run_framing cfg k B d cl tf hnd fuel).1 bs t r

/-- the components of a definite-length constructed element -/
theorem run_childrenDefP (cfg : ParseCfg) (k : Kind) (B : Nat) (d : Bytes) (cl : Bool) (tf : Nat)
    (hnd : NoDropK k B d) : ∀ (fuel : Nat) (content : Bytes) (cs : List TLV),
    parseAll cfg fuel content = .ok cs → content.length ≤ tf →
    ∀ (extra : Bytes) (s : St ε) (orig n : Nat), At d s.pos (content ++ extra) → s.base = 0 →
      s.pos + content.length = orig + n →
      ∃ s', run k B d cl (childrenDefP cfg tf fuel n orig) s = .done cs s' ∧
        (At d s'.pos extra ∧ s'.pos = orig + n) ∧ s'.base = 0 ∧ s'.out = s.out :=
  fun fuel => (run_framing cfg k B d cl tf hnd fuel).2.1

/-- the components of an indefinite-length element, up to and including the end-of-octets marker -/
theorem run_childrenIndefP (cfg : ParseCfg) (k : Kind) (B : Nat) (d : Bytes) (cl : Bool) (tf : Nat)
    (hnd : NoDropK k B d) : ∀ (fuel : Nat) (bs : Bytes) (cs : List TLV) (r : Bytes),
    parseUntilEoo cfg fuel bs = .ok (cs, r) → bs.length ≤ tf →
    ∀ (extra : Bytes) (s : St ε), At d s.pos (bs ++ extra) → s.base = 0 →
      ∃ s', run k B d cl (childrenIndefP cfg tf fuel) s = .done cs s' ∧ At d s'.pos (r ++ extra) ∧
        s'.base = 0 ∧ s'.out = s.out :=
  fun fuel => (run_framing cfg k B d cl tf hnd fuel).2.2

end Asn1.Stream
