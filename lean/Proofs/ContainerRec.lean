/-
  Proofs.ContainerRec — SEQUENCE / SET objects with declared fields refine the dict prototype:
  under the shape invariant `Rec.Inv`, every operation returns what the prototype returns on the
  abstracted state `absD`, and `absD` commutes with the step (`rec_step`).  Ill-formed operations
  raise and leave the object alone, readers leave the prototype state alone; the abstract content
  `Rec.abs` is a function of the prototype state, and touching an unset key does not change it.
-/
import Asn1.Container
import Proofs.ContainerDict

namespace Asn1.Container
open DictSpec

theorem slot_nil (i : Int) : Rec.slot [] i = none := by
  simp [Rec.slot, pyIdx_zero]

theorem bind_slot (c : Option (List Comp)) (i : Int) :
    c.bind (fun l => Rec.slot l i) = Rec.slot (c.getD []) i := by
  cases c with
  | none => exact (slot_nil i).symm
  | some l => rfl

/-- `componentValues[idx]` on a list that is empty or padded to length `n` -/
theorem slot_shape {n : Nat} {l : List Comp} (hl : l = [] ∨ l.length = n) (i : Int) :
    Rec.slot l i = (pyIdx n i).bind fun k => l[k]? := by
  rcases hl with rfl | rfl
  · rw [slot_nil]; cases pyIdx n i <;> rfl
  · rfl

/-- the component list as every assignment sees it: padded to the declared length on first use
    (the object's side of `DictSpec.alloc`) -/
def Rec.pad (fields : List FK) (l : List Comp) : List Comp :=
  if l.isEmpty then List.replicate fields.length .hole else l

variable {fields : List FK} {st : RecSt}

theorem absD_getD (st : RecSt) : (Rec.absD st).getD [] = (st.comps.getD []).map Comp.get? := by
  obtain ⟨comps, dyn⟩ := st
  cases comps <;> rfl

theorem pad_abs (st : RecSt) :
    (Rec.pad fields (st.comps.getD [])).map Comp.get? = alloc fields (Rec.absD st) := by
  rw [alloc, absD_getD, List.isEmpty_map, Rec.pad]
  split <;> simp [Comp.get?]

theorem inv_getD (hinv : Rec.Inv fields st) :
    (st.comps.getD [] = [] ∨ (st.comps.getD []).length = fields.length) ∧
    ∀ (k : Nat) (d : Int), fields[k]? = some (FK.dflt d) → (st.comps.getD [])[k]? ≠ some Comp.ph := by
  cases hc : st.comps with
  | none => exact ⟨.inl rfl, fun _ _ _ => nofun⟩
  | some l => exact ⟨(hinv.2 l hc).1.imp id And.left, (hinv.2 l hc).2⟩

theorem pad_shape (hinv : Rec.Inv fields st) :
    (Rec.pad fields (st.comps.getD [])).length = fields.length ∧
    ∀ (k : Nat) (d : Int), fields[k]? = some (FK.dflt d) →
      (Rec.pad fields (st.comps.getD []))[k]? ≠ some Comp.ph := by
  obtain ⟨hs, hd⟩ := inv_getD hinv
  unfold Rec.pad
  split
  · refine ⟨List.length_replicate, fun k d _ h => ?_⟩
    rw [List.getElem?_replicate] at h
    split at h <;> cases h
  · rename_i hne
    exact ⟨hs.resolve_left (by simpa using hne), hd⟩

/-- for a position in range, "the slot exists" means "the list is padded" -/
theorem padded_eq (hinv : Rec.Inv fields st) {i : Int} {k : Nat} (hk : pyIdx fields.length i = some k) :
    (if (Rec.slot (st.comps.getD []) i).isSome then st.comps.getD [] else List.replicate fields.length Comp.hole)
      = Rec.pad fields (st.comps.getD []) := by
  have hs := (inv_getD hinv).1
  rw [slot_shape hs, hk, Rec.pad]
  generalize st.comps.getD [] = l at hs
  rcases hs with rfl | h
  · rfl
  · have hkl : k < l.length := h ▸ pyIdx_lt hk
    rw [Option.bind_some, List.getElem?_eq_getElem hkl]
    cases l with
    | nil => exact absurd hkl (Nat.not_lt_zero k)
    | cons c l => rfl

theorem cur_abs (hinv : Rec.Inv fields st) (i : Int) :
    ((st.comps.bind (fun l => Rec.slot l i)).getD .hole).get? = cur fields (Rec.absD st) i := by
  rw [bind_slot, slot_shape (inv_getD hinv).1, cur, absD_getD]
  cases pyIdx fields.length i with
  | none => rfl
  | some k =>
    simp only [Option.bind_some, List.getElem?_map]
    cases (st.comps.getD [])[k]? <;> rfl

theorem typeObj_get (fk : FK) : (Rec.typeObj fk).get? = dflt fk := by
  cases fk <;> rfl

theorem typeObj_not_hole (fk : FK) : (Rec.typeObj fk).isHole = false := by
  cases fk <;> rfl

theorem inv_empty : Rec.Inv fields ⟨some [], 0⟩ :=
  ⟨rfl, by rintro _ ⟨⟩; exact ⟨.inl rfl, fun _ _ _ => nofun⟩⟩

theorem inv_set (hinv : Rec.Inv fields st) {k : Nat} {c : Comp} (hk : k < fields.length)
    (hc : c.isHole = false) (hcd : ∀ d : Int, fields[k]? = some (FK.dflt d) → c ≠ Comp.ph) :
    Rec.Inv fields { st with comps := some ((Rec.pad fields (st.comps.getD [])).set k c) } := by
  obtain ⟨hlen, hd⟩ := pad_shape hinv
  refine ⟨hinv.1, ?_⟩
  rintro _ ⟨⟩
  refine ⟨.inr ⟨by simpa using hlen, ?_⟩, fun j d hj => ?_⟩
  · exact List.all_eq_false.mpr ⟨c, List.mem_set (hlen ▸ hk) c, by simp [hc]⟩
  · by_cases hjk : k = j
    · subst hjk
      rw [List.getElem?_set_self (hlen ▸ hk)]
      exact fun h => hcd d hj (Option.some.inj h)
    · rw [List.getElem?_set_ne hjk]; exact hd j d hj

/-- what `setComponentByPosition(idx, value)` puts into a declared slot: the type object when
    called without value; `none` when the value is refused -/
def Rec.stored (fk : FK) : Option Arg → Option Comp
  | none => some (Rec.typeObj fk)
  | some (.py z) | some (.obj z) => some (.val z)
  | some .bad => none

theorem stored_shape {fk : FK} {a : Option Arg} {c : Comp} (h : Rec.stored fk a = some c) :
    c.isHole = false ∧ ∀ d, fk = .dflt d → c ≠ .ph := by
  cases a with
  | none => cases h; exact ⟨typeObj_not_hole fk, by rintro d rfl h; cases h⟩
  | some a => cases a <;> cases h <;> exact ⟨rfl, fun _ _ => nofun⟩

theorem rec_setAt_bad (st : RecSt) (hN : fields.length ≠ 0) (i : Int) (a : Option Arg)
    (h : (pyIdx fields.length i).isNone = true ∨ a = some .bad) : Rec.setAt fields st i a = none := by
  unfold Rec.setAt
  simp only [if_pos hN]
  cases hk : pyIdx fields.length i with
  | none => rfl
  | some k =>
    obtain rfl : a = some .bad := h.resolve_left (by simp [hk])
    simp only
    cases fields[k]? <;> rfl

theorem rec_setAt_decl (st : RecSt) (hN : fields.length ≠ 0) {i : Int} {k : Nat} {fk : FK}
    (hk : pyIdx fields.length i = some k) (hfk : fields[k]? = some fk) (a : Option Arg) :
    Rec.setAt fields st i a = (Rec.stored fk a).map fun c =>
      { st with comps := some ((if (Rec.slot (st.comps.getD []) i).isSome then st.comps.getD []
          else List.replicate fields.length Comp.hole).set k c) } := by
  unfold Rec.setAt
  simp only [if_pos hN, hk, hfk, setNth_eq_set]
  cases a with
  | none => rfl
  | some a => cases a <;> rfl

theorem dict_setAt_decl (s : DictSpec.St) {i : Int} {k : Nat} {fk : FK}
    (hk : pyIdx fields.length i = some k) (hfk : fields[k]? = some fk) (a : Option Arg) :
    DictSpec.setAt fields s i a = (Rec.stored fk a).map fun c => some ((alloc fields s).set k c.get?) := by
  unfold DictSpec.setAt
  simp only [hk, hfk]
  cases a with
  | none => rw [Rec.stored, Option.map_some, typeObj_get]
  | some a => cases a <;> rfl

theorem setAt_abs (hinv : Rec.Inv fields st) (hN : fields.length ≠ 0) (i : Int) (a : Option Arg) :
    (Rec.setAt fields st i a).map Rec.absD = DictSpec.setAt fields (Rec.absD st) i a ∧
    ∀ st', Rec.setAt fields st i a = some st' → Rec.Inv fields st' := by
  cases hk : pyIdx fields.length i with
  | none =>
    rw [rec_setAt_bad st hN i a (.inl (by rw [hk]; rfl)), DictSpec.setAt, hk]
    exact ⟨rfl, nofun⟩
  | some k =>
    obtain ⟨fk, hfk⟩ := pyIdx_get hk
    rw [rec_setAt_decl st hN hk hfk, padded_eq hinv hk, dict_setAt_decl _ hk hfk]
    cases hc : Rec.stored fk a with
    | none => exact ⟨rfl, nofun⟩
    | some c =>
      simp only [Option.map_some]
      refine ⟨?_, ?_⟩
      · rw [← pad_abs, ← List.map_set]; rfl
      · rintro _ ⟨⟩
        exact inv_set hinv (pyIdx_lt hk) (stored_shape hc).1 fun d hd =>
          (stored_shape hc).2 d (Option.some.inj (hfk.symm.trans hd))

/-- a setter call; the two sides look the position up in their own way (`hp`) -/
theorem setOut_abs (hinv : Rec.Inv fields st) (hN : fields.length ≠ 0) {p p' : Option Int} (hp : p = p')
    (a : Option Arg) (err : Out) :
    Sim Rec.absD (Rec.Inv fields) (Rec.setOut fields st p a err) (setOut fields (Rec.absD st) p' a err) := by
  subst hp
  cases p with
  | none => exact Sim.same hinv err
  | some i =>
    obtain ⟨h1, h2⟩ := setAt_abs hinv hN i a
    simp only [Rec.setOut, DictSpec.setOut, ← h1]
    cases hs : Rec.setAt fields st i a with
    | none => exact Sim.same hinv err
    | some st' => exact Sim.same (h2 st' hs) Out.unit

theorem getAt_abs (hinv : Rec.Inv fields st) (hN : fields.length ≠ 0) (i : Int) (inst : Bool) :
    Sim Rec.absD (Rec.Inv fields) (Rec.getAt fields st i inst) (DictSpec.getAt fields (Rec.absD st) i inst) := by
  unfold Rec.getAt DictSpec.getAt
  rw [← cur_abs hinv i]
  cases hc : (st.comps.bind fun l => Rec.slot l i).getD Comp.hole with
  | val z => cases inst <;> exact Sim.same hinv _
  | hole =>
    cases inst with
    | false => exact Sim.same hinv _
    | true =>
      -- the touch is the assignment without value; what is returned is the type object just stored
      simp only [Comp.get?, Comp.isHole, Bool.not_true, Bool.false_eq_true, if_false, if_true]
      cases hk : pyIdx fields.length i with
      | none =>
        rw [rec_setAt_bad st hN i none (.inl (by rw [hk]; rfl))]
        exact Sim.same hinv _
      | some k =>
        obtain ⟨fk, hfk⟩ := pyIdx_get hk
        obtain ⟨h1, h2⟩ := setAt_abs hinv hN i none
        rw [rec_setAt_decl st hN hk hfk, padded_eq hinv hk, dict_setAt_decl _ hk hfk] at h1
        rw [rec_setAt_decl st hN hk hfk, padded_eq hinv hk] at h2 ⊢
        simp only [Rec.stored, Option.map_some, typeObj_get] at h1 h2 ⊢
        simp only [hfk]
        refine ⟨congrArg Out.comp ?_, Option.some.inj h1, h2 _ rfl⟩
        have hlen := (pad_shape hinv).1
        rw [Option.bind_some, slot_shape (n := fields.length) (.inr (by rw [List.length_set]; exact hlen)), hk,
          Option.bind_some, List.getElem?_set_self (hlen ▸ pyIdx_lt hk)]
        cases fk <;> rfl
  | ph =>
    cases inst with
    | false => exact Sim.same hinv _
    | true =>
      -- the slot exists and holds a placeholder: its field is no DEFAULT one, and the prototype's
      -- touch stores "unset" where "unset" stands
      obtain ⟨hs, hd⟩ := inv_getD hinv
      rw [bind_slot, slot_shape hs] at hc
      simp only [Comp.get?, Comp.isHole, Bool.not_true, Bool.false_eq_true, if_false]
      cases hk : pyIdx fields.length i with
      | none => rw [hk] at hc; cases hc
      | some k =>
        rw [hk, Option.bind_some] at hc
        obtain ⟨fk, hfk⟩ := pyIdx_get hk
        have hlk : (st.comps.getD [])[k]? = some Comp.ph := by
          cases hx : (st.comps.getD [])[k]? with
          | none => rw [hx] at hc; cases hc
          | some x => rw [hx] at hc; exact congrArg some hc
        have hnd : dflt fk = none := by
          cases fk with
          | dflt d => exact absurd hlk (hd k d hfk)
          | req | opt => rfl
        simp only [hfk, hnd]
        refine ⟨rfl, ?_, hinv⟩
        have hget : ((Rec.absD st).getD [])[k]? = some none := by
          rw [absD_getD, List.getElem?_map, hlk]; rfl
        have hne : ((Rec.absD st).getD []).isEmpty = false := by
          cases h : (Rec.absD st).getD [] with
          | nil => rw [h] at hget; cases hget
          | cons => rfl
        rw [alloc, hne, if_neg Bool.false_ne_true, set_same hget]
        cases h : Rec.absD st with
        | none => rw [h] at hne; cases hne
        | some l => rfl

theorem getMany_abs (hinv : Rec.Inv fields st) (hN : fields.length ≠ 0) (ks : List Nat) :
    Sim Rec.absD (Rec.Inv fields) (Rec.getMany fields st ks) (DictSpec.getMany fields (Rec.absD st) ks) := by
  induction ks generalizing st with
  | nil => exact Sim.same hinv _
  | cons k ks ih =>
    have h := getAt_abs hinv hN (k : Int) true
    dsimp only [Rec.getMany, DictSpec.getMany]
    rw [h.spec_eq]
    generalize Rec.getAt fields st (k : Int) true = r at h
    obtain ⟨st1, o⟩ := r
    cases o with
    | comp c =>
      have ih' := ih h.inv_fst
      simp only [ih'.spec_eq]
      generalize Rec.getMany fields st1 ks = r2 at ih'
      obtain ⟨st2, o2⟩ := r2
      cases o2 <;> exact Sim.same ih'.inv_fst _
    | unit | nat _ | bool _ | comps _ | names _ | items _ | bytes _ | lookupErr | libErr | valueErr =>
      exact Sim.same h.inv_fst _

theorem isValue_abs (hN : fields.length ≠ 0) :
    Rec.isValue fields st = DictSpec.isValue fields (Rec.absD st) := by
  unfold Rec.isValue DictSpec.isValue Rec.absD
  cases st.comps with
  | none => rfl
  | some l =>
    simp only [if_pos hN, Option.map_some, reqSet]
    congr 1
    funext k
    cases fields[k]? with
    | none => rfl
    | some fk =>
      cases fk with
      | req =>
        rw [List.getElem?_map]
        cases l[k]? with
        | none => rfl
        | some c => cases c <;> rfl
      | opt | dflt d => rfl

theorem encTouch_value (eager : Bool) (ks : List Nat)
    (hv : ∀ k ∈ ks, fields[k]? = some FK.req →
      ((st.comps.bind (fun l => Rec.slot l (k : Int))).getD Comp.hole).isVal = true) :
    Rec.encTouch fields eager st ks = st := by
  induction ks with
  | nil => rfl
  | cons k ks ih =>
    have ih' := ih fun k' h' => hv k' (List.mem_cons_of_mem _ h')
    dsimp only [Rec.encTouch]
    cases hf : fields[k]? with
    | none => exact ih'
    | some fk =>
      cases fk with
      | req => simp only [hv k List.mem_cons_self hf, if_true]; exact ih'
      | opt | dflt d => exact ih'

theorem eqItems_spec : ∀ (cs l : List Comp), cs.length = l.length →
    Rec.eqItems cs l = .libErr ∨ Rec.eqItems cs l = .bool (cs.map Comp.get? == l.map Comp.get?)
  | [], [], _ => .inr rfl
  | [], _ :: _, h | _ :: _, [], h => nomatch h
  | o :: os, c :: l, h => by
    have ih := eqItems_spec os l (Nat.succ.inj h)
    cases o with
    | hole =>
      cases c with
      | hole => exact ih
      | ph | val z => exact .inl rfl
    | ph => cases c <;> exact .inl rfl
    | val v =>
      cases c with
      | hole | ph => exact .inl rfl
      | val z =>
        dsimp only [Rec.eqItems]
        by_cases hvz : v = z
        · subst hvz; simpa [Comp.get?] using ih
        · exact .inr (by simp [hvz, Comp.get?])

theorem pretty_filter (k : Nat) (l : List Comp) :
    (enumFrom k l).filter (fun kv => kv.2.isVal) =
      (enumFrom k ((l.map Comp.get?).map readComp)).filter (fun kv => kv.2.isVal) := by
  induction l generalizing k with
  | nil => rfl
  | cons c l ih =>
    rw [List.map_cons, List.map_cons, enumFrom, enumFrom, List.filter_cons, List.filter_cons, ih (k + 1)]
    cases c <;> rfl

theorem nNames_decl (hN : fields.length ≠ 0) (st : RecSt) : Rec.nNames fields st = fields.length :=
  if_pos hN

theorem posOfName_decl (hN : fields.length ≠ 0) (st : RecSt) (k : Nat) :
    Rec.posOfName fields st k = DictSpec.posOfName fields k := by
  rw [Rec.posOfName, nNames_decl hN]; rfl

theorem posOfType_decl (k : Nat) : Rec.posOfType fields k = DictSpec.posOfName fields k := rfl

/-- `values()` / `items()`: every declared position is read in turn -/
theorem getAll_abs (hinv : Rec.Inv fields st) (hN : fields.length ≠ 0) (f : List Comp → Out) :
    Sim Rec.absD (Rec.Inv fields)
      (match Rec.getMany fields st (List.range (Rec.nNames fields st)) with
        | (st', some cs) => (st', f cs)
        | (st', none) => (st', .lookupErr))
      (match DictSpec.getMany fields (Rec.absD st) (List.range fields.length) with
        | (s', some cs) => (s', f cs)
        | (s', none) => (s', .lookupErr)) := by
  have h := getMany_abs hinv hN (List.range fields.length)
  rw [nNames_decl hN, h.spec_eq]
  generalize Rec.getMany fields st (List.range fields.length) = r at h
  obtain ⟨st1, o⟩ := r
  cases o <;> exact Sim.same h.inv_fst _

/-- under the invariant a copy with values is the object itself -/
theorem clone_abs (hinv : Rec.Inv fields st) (hN : fields.length ≠ 0) (flag : Bool) :
    Sim Rec.absD (Rec.Inv fields) (Rec.step fields st (.clone flag)) (DictSpec.step fields (Rec.absD st) (.clone flag)) := by
  cases flag with
  | false =>
    dsimp only [Rec.step]
    simp only [if_pos hN]
    exact Sim.same inv_empty _
  | true =>
    obtain ⟨comps, dyn⟩ := st
    obtain rfl : dyn = 0 := hinv.1
    cases comps with
    | none => exact Sim.same hinv _
    | some l =>
      have hkeep : (if l.all (·.isHole) then [] else l) = l := by
        rcases (hinv.2 l rfl).1 with rfl | h
        · rfl
        · rw [h.2]; rfl
      dsimp only [Rec.step]
      simp only [if_pos hN, hkeep]
      exact Sim.same hinv _

/-- `==` where the library answers: the answer is the comparison of the values -/
theorem eqTo_abs (hinv : Rec.Inv fields st) (cs : List Comp) (hal : Rec.Allowed fields st (.eqTo cs) = true) :
    Sim Rec.absD (Rec.Inv fields) (Rec.step fields st (.eqTo cs)) (DictSpec.step fields (Rec.absD st) (.eqTo cs)) := by
  obtain ⟨comps, dyn⟩ := st
  cases comps with
  | none => exact Sim.same hinv _
  | some l =>
    dsimp only [Rec.Allowed, Rec.step] at hal
    simp only [Option.isNone_some, Bool.false_or, bne_iff_ne, ne_eq] at hal
    dsimp only [Rec.step, DictSpec.step]
    simp only [Rec.absD, Option.map_some]
    refine Sim.answer hinv ?_
    by_cases hlen : cs.length = l.length
    · rw [if_neg (not_not_intro hlen)] at hal ⊢
      exact ((eqItems_spec cs l hlen).resolve_left hal)
    · rw [if_pos hlen]
      refine congrArg Out.bool (Bool.eq_false_iff.mpr fun h => hlen ?_).symm
      simpa using List.length_eq_of_beq h

theorem slot_of_isValue (hinv : Rec.Inv fields st) (hN : fields.length ≠ 0) (hv : Rec.isValue fields st = true)
    {k : Nat} (hk : k < fields.length) (hreq : fields[k]? = some FK.req) :
    ((st.comps.bind (fun l => Rec.slot l (k : Int))).getD Comp.hole).isVal = true := by
  obtain ⟨comps, dyn⟩ := st
  cases comps with
  | none => cases hv
  | some l =>
    simp only [Rec.isValue, if_pos hN, List.all_eq_true, List.mem_range] at hv
    have := hv k hk
    rw [hreq] at this
    rw [Option.bind_some, slot_shape (n := fields.length) ((hinv.2 l rfl).1.imp id And.left), pyIdx_nat hk]
    change (l[k]?.getD Comp.hole).isVal = true
    cases hlk : l[k]? with
    | none => rw [hlk] at this; cases this
    | some c => rw [hlk] at this; exact this

/-- encoding a value object: the encoder finds every mandatory component, so it instantiates nothing -/
theorem encode_abs (hinv : Rec.Inv fields st) (hN : fields.length ≠ 0) (eager : Bool)
    (hal : Rec.Allowed fields st (.encode eager) = true) :
    Sim Rec.absD (Rec.Inv fields) (Rec.step fields st (.encode eager))
      (DictSpec.step fields (Rec.absD st) (.encode eager)) := by
  have hv : Rec.isValue fields st = true := hal
  have hsame : Rec.encTouch fields eager st (List.range fields.length) = st :=
    encTouch_value eager _ fun k hk => slot_of_isValue hinv hN hv (List.mem_range.mp hk)
  rw [isValue_abs hN] at hv
  unfold DictSpec.isValue at hv
  dsimp only [Rec.step, DictSpec.step]
  simp only [if_pos hN, hsame]
  cases hs : Rec.absD st with
  | none => rw [hs] at hv; cases hv
  | some l =>
    rw [hs] at hv
    simp only [hv, if_true]
    exact ⟨rfl, hs, hinv⟩

/-- **one step** of a SEQUENCE/SET object with declared fields against the dict prototype -/
theorem rec_step (hinv : Rec.Inv fields st) (hN : fields.length ≠ 0) (op : RecOp)
    (hal : Rec.Allowed fields st op = true) :
    Sim Rec.absD (Rec.Inv fields) (Rec.step fields st op) (DictSpec.step fields (Rec.absD st) op) := by
  cases op with
  | setItemPos i a => exact setOut_abs hinv hN rfl (some a) .lookupErr
  | setPos i a => exact setOut_abs hinv hN rfl (some a) .libErr
  | setNone i => exact setOut_abs hinv hN rfl none .libErr
  | setItemName k a => exact setOut_abs hinv hN (posOfName_decl hN st k) (some a) .lookupErr
  | setName k a => exact setOut_abs hinv hN (posOfName_decl hN st k) (some a) .libErr
  | setType k a => exact setOut_abs hinv hN (posOfType_decl k) (some a) .libErr
  | clear => exact Sim.same inv_empty _
  | reset => exact ⟨rfl, rfl, rfl, nofun⟩
  | clone flag => exact clone_abs hinv hN flag
  | len =>
    obtain ⟨comps, dyn⟩ := st
    cases comps with
    | none => exact Sim.same hinv _
    | some l => exact Sim.answer hinv (congrArg Out.nat (List.length_map _).symm)
  | keys | contains k => dsimp only [Rec.step]; rw [nNames_decl hN]; exact Sim.same hinv _
  | getItemPos i => exact (getAt_abs hinv hN i true).map Out.asLookup
  | getPos i inst => exact getAt_abs hinv hN i inst
  | getItemName k =>
    dsimp only [Rec.step, DictSpec.step]
    exact Sim.lookup hinv (getAt_abs hinv hN · true) (posOfName_decl hN st k) .lookupErr Out.asLookup
  | getName k inst =>
    dsimp only [Rec.step, DictSpec.step]
    exact Sim.lookup hinv (getAt_abs hinv hN · inst) (posOfName_decl hN st k) .libErr id
  | getType k inst =>
    dsimp only [Rec.step, DictSpec.step]
    exact Sim.lookup hinv (getAt_abs hinv hN · inst) (posOfType_decl k) .libErr id
  | values => dsimp only [Rec.step, DictSpec.step]; exact getAll_abs hinv hN Out.comps
  | items => dsimp only [Rec.step, DictSpec.step]; exact getAll_abs hinv hN fun cs => .items (enumFrom 0 cs)
  | pretty =>
    obtain ⟨comps, dyn⟩ := st
    cases comps with
    | none => exact Sim.same hinv _
    | some l => exact Sim.answer hinv (congrArg Out.items (pretty_filter 0 l))
  | eqTo cs => exact eqTo_abs hinv cs hal
  | encode eager => exact encode_abs hinv hN eager hal

theorem rec_setOut_ill (st : RecSt) (hN : fields.length ≠ 0) {p : Option Int} {a : Option Arg} {err : Out}
    (he : err.isErr = true)
    (h : (∀ i, p = some i → (pyIdx fields.length i).isNone = true) ∨ a = some .bad) :
    (Rec.setOut fields st p a err).2.isErr = true ∧ (Rec.setOut fields st p a err).1 = st := by
  cases p with
  | none => exact ⟨he, rfl⟩
  | some i => rw [Rec.setOut, rec_setAt_bad st hN i a (h.imp (fun h => h i rfl) id)]; exact ⟨he, rfl⟩

/-- **ill-formed operations raise and change nothing** (records with declared fields) -/
theorem rec_illformed (hinv : Rec.Inv fields st) (hN : fields.length ≠ 0) (op : RecOp)
    (h : illFormed fields op = true) :
    (Rec.step fields st op).2.isErr = true ∧ (Rec.step fields st op).1 = st := by
  have hname : ∀ k, fields.length ≤ k → Rec.posOfName fields st k = none := fun k hk => by
    rw [posOfName_decl hN]; exact if_neg (Nat.not_lt.mpr hk)
  have htype : ∀ k, fields.length ≤ k → Rec.posOfType fields k = none := fun k hk =>
    if_neg (Nat.not_lt.mpr hk)
  have hget : ∀ i, (pyIdx fields.length i).isNone = true → Rec.getAt fields st i true = (st, .libErr) := by
    intro i hi
    have hs : ((st.comps.bind fun l => Rec.slot l i).getD Comp.hole) = Comp.hole := by
      rw [bind_slot, slot_shape (inv_getD hinv).1, Option.isNone_iff_eq_none.mp hi]; rfl
    rw [Rec.getAt, hs, rec_setAt_bad st hN i none (.inl hi)]; rfl
  cases op with
  | setItemPos i a | setPos i a =>
    dsimp only [illFormed] at h; simp only [Bool.or_eq_true, beq_iff_eq] at h
    dsimp only [Rec.step]
    exact rec_setOut_ill st hN rfl (h.imp (fun h j hj => Option.some.inj hj ▸ h) (congrArg some))
  | setNone i =>
    dsimp only [Rec.step]
    exact rec_setOut_ill st hN rfl (.inl fun j hj => Option.some.inj hj ▸ h)
  | setItemName k a | setName k a =>
    dsimp only [illFormed] at h; simp only [Bool.or_eq_true, decide_eq_true_eq, beq_iff_eq] at h
    dsimp only [Rec.step]
    exact rec_setOut_ill st hN rfl (h.imp (fun h j hj => by rw [hname k h] at hj; cases hj) (congrArg some))
  | setType k a =>
    dsimp only [illFormed] at h; simp only [Bool.or_eq_true, decide_eq_true_eq, beq_iff_eq] at h
    dsimp only [Rec.step]
    exact rec_setOut_ill st hN rfl (h.imp (fun h j hj => by rw [htype k h] at hj; cases hj) (congrArg some))
  | getItemPos i => dsimp only [Rec.step]; rw [hget i h]; exact ⟨rfl, rfl⟩
  | getPos i inst =>
    cases inst with
    | false => cases h
    | true => dsimp only [Rec.step]; rw [hget i h]; exact ⟨rfl, rfl⟩
  | getItemName k | getName k inst => dsimp only [Rec.step]; rw [hname k (of_decide_eq_true h)]; exact ⟨rfl, rfl⟩
  | getType k inst => dsimp only [Rec.step]; rw [htype k (of_decide_eq_true h)]; exact ⟨rfl, rfl⟩
  | _ => cases h

theorem dict_reader (s : DictSpec.St) (op : RecOp) (hr : isReader fields s op = true) :
    (DictSpec.step fields s op).1 = s := by
  have hget : ∀ i inst, (inst = true → (cur fields s i).isSome = true) → (DictSpec.getAt fields s i inst).1 = s := by
    intro i inst hc
    unfold DictSpec.getAt
    cases hcur : cur fields s i with
    | some z => rfl
    | none =>
      cases inst with
      | false => rfl
      | true => rw [hcur] at hc; cases hc rfl
  cases op with
  | len | pretty | eqTo _ => dsimp only [DictSpec.step]; cases s <;> rfl
  | keys | contains _ => rfl
  | getItemPos i => exact hget i true fun _ => hr
  | getPos i inst => exact hget i inst fun hi => by subst hi; exact hr
  | getItemName k =>
    dsimp only [DictSpec.step]
    cases hp : DictSpec.posOfName fields k with
    | none => rfl
    | some i => exact hget i true fun _ => by simpa only [isReader, hp] using hr
  | getName k inst | getType k inst =>
    dsimp only [DictSpec.step]
    cases hp : DictSpec.posOfName fields k with
    | none => rfl
    | some i => exact hget i inst fun hi => by subst hi; simpa only [isReader, hp] using hr
  | encode e =>
    dsimp only [isReader] at hr; simp only [DictSpec.isValue] at hr
    dsimp only [DictSpec.step]
    cases s with
    | none => cases hr
    | some l => simp only [hr, if_true]
  | _ => cases hr

theorem absField_spec (fk : FK) (c : Comp) (h : ∀ d, fk = .dflt d → c ≠ .ph) :
    Rec.absField fk c = DictSpec.absField fk c.get? := by
  cases fk with
  | req => cases c <;> rfl
  | opt => cases c <;> rfl
  | dflt d =>
    cases c with
    | hole => rfl
    | val z => rfl
    | ph => exact absurd rfl (h d rfl)

theorem absFields_cons (fk : FK) (fks : List FK) (cs : List Comp) :
    Rec.absFields (fk :: fks) cs =
      match Rec.absField fk (cs.headD .hole), Rec.absFields fks cs.tail with
      | some v, some vs => some (v :: vs)
      | _, _ => none := rfl

theorem dabsFields_cons (fk : FK) (fks : List FK) (l : List (Option Int)) :
    DictSpec.absFields (fk :: fks) l =
      match DictSpec.absField fk (l.headD none), DictSpec.absFields fks l.tail with
      | some v, some vs => some (v :: vs)
      | _, _ => none := rfl

theorem absFields_spec (fks : List FK) (l : List Comp)
    (h : ∀ (k : Nat) (d : Int), fks[k]? = some (FK.dflt d) → l[k]? ≠ some Comp.ph) :
    Rec.absFields fks l = DictSpec.absFields fks (l.map Comp.get?) := by
  induction fks generalizing l with
  | nil => rfl
  | cons fk fks ih =>
    rw [absFields_cons, dabsFields_cons]
    cases l with
    | nil => rw [absField_spec fk ([].headD .hole) fun _ _ => nofun, ih [].tail fun _ _ _ => nofun]; rfl
    | cons c t =>
      rw [absField_spec fk ((c :: t).headD .hole) fun d hd hc => h 0 d (congrArg some hd) (congrArg some hc),
        ih (c :: t).tail fun k d hk => h (k + 1) d hk]
      rfl

theorem abs_eq_dict (hinv : Rec.Inv fields st) (hN : fields.length ≠ 0) :
    Rec.abs fields st = DictSpec.abs fields (Rec.absD st) := by
  unfold Rec.abs DictSpec.abs Rec.absD
  cases hc : st.comps with
  | none => rfl
  | some l =>
    simp only [if_pos hN, absFields_spec fields l (hinv.2 l hc).2, Option.map_some]

theorem abs_step_eq_dict (hinv : Rec.Inv fields st) (hN : fields.length ≠ 0) (op : RecOp)
    (hal : Rec.Allowed fields st op = true) :
    Rec.abs fields (Rec.step fields st op).1 = DictSpec.abs fields (DictSpec.step fields (Rec.absD st) op).1 := by
  have h := rec_step hinv hN op hal
  rw [abs_eq_dict h.inv_fst hN, h.abs_eq]

/-- the abstract content looks at a slot list through its lookups only -/
theorem dabsFields_congr (fks : List FK) (l l' : List (Option Int))
    (h : ∀ (k : Nat) (fk : FK), fks[k]? = some fk →
      DictSpec.absField fk ((l[k]?).bind id) = DictSpec.absField fk ((l'[k]?).bind id)) :
    DictSpec.absFields fks l = DictSpec.absFields fks l' := by
  induction fks generalizing l l' with
  | nil => rfl
  | cons fk fks ih =>
    have hd : ∀ l : List (Option Int), l.headD none = (l[0]?).bind id := fun l => by cases l <;> rfl
    have ht : ∀ (l : List (Option Int)) k, l.tail[k]? = l[k + 1]? := fun l k => by cases l <;> rfl
    rw [dabsFields_cons, dabsFields_cons, hd, hd, h 0 fk rfl,
      ih l.tail l'.tail fun k fk' hk => by rw [ht, ht]; exact h (k + 1) fk' hk]

/-- allocating the slots and giving an unset key its DEFAULT keeps the abstract content -/
theorem abs_touch {l : List (Option Int)} {k : Nat} {fk : FK}
    (hfk : fields[k]? = some fk) (hcur : (l[k]?).bind id = none) :
    DictSpec.abs fields (some ((alloc fields (some l)).set k (dflt fk))) = DictSpec.abs fields (some l) := by
  refine congrArg (Option.map Val.seq) (dabsFields_congr fields _ _ fun j fj hj => ?_)
  have halloc : ((alloc fields (some l))[j]?).bind id = (l[j]?).bind id := by
    rw [alloc, Option.getD_some]
    split
    · rename_i he
      rw [List.isEmpty_iff.mp he, List.getElem?_replicate]
      split <;> rfl
    · rfl
  rw [List.getElem?_set]
  split
  · rename_i hkj
    subst hkj
    obtain rfl : fj = fk := Option.some.inj (hj.symm.trans hfk)
    rw [hcur]
    split
    · cases fj <;> rfl
    · rfl
  · rw [halloc]

theorem dict_getAt_abs (fields : List FK) (s : DictSpec.St) (hs : s.isSome = true) (i : Int) (inst : Bool) :
    DictSpec.abs fields (DictSpec.getAt fields s i inst).1 = DictSpec.abs fields s := by
  obtain ⟨l, rfl⟩ := Option.isSome_iff_exists.mp hs
  unfold DictSpec.getAt
  cases hcur : DictSpec.cur fields (some l) i with
  | some z => rfl
  | none =>
    cases inst with
    | false => rfl
    | true =>
      unfold DictSpec.cur at hcur
      cases hk : pyIdx fields.length i with
      | none => rfl
      | some k =>
        rw [hk] at hcur
        simp only
        cases hfk : fields[k]? with
        | none => rfl
        | some fk => exact abs_touch hfk hcur

end Asn1.Container
