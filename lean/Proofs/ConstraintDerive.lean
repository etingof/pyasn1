/-
  Proofs.ConstraintDerive — derivation (`subtypeSpec + extra`), the value map and `isSuperTypeOf`:
  a derived constraint set denotes the intersection, and every ancestor recognises it.
-/
import Proofs.Constraint

namespace Asn1.Constraint

def Ops.conList : Ops → List Constr
  | .nil => []
  | .con c r => c :: r.conList
  | .raw _ r => r.conList
  | .field _ _ r => r.conList
  | .entry _ _ _ r => r.conList

theorem conList_append : ∀ (a b : Ops), (a.append b).conList = a.conList ++ b.conList
  | .nil => fun _ => rfl
  | .con c r => fun b => congrArg (c :: ·) (conList_append r b)
  | .raw _ r | .field _ _ r | .entry _ _ _ r => conList_append r

theorem append_ne_nil : ∀ (a : Ops) (c : Constr) (r : Ops), a.append (.con c r) ≠ .nil
  | .nil | .con _ _ | .raw _ _ | .field _ _ _ | .entry _ _ _ _ => fun _ _ => nofun

theorem denAll_append : ∀ (a b : Ops) (s : List Atom) (i : Option Nat) (v : CVal),
    denAll (a.append b) s i v ↔ denAll a s i v ∧ denAll b s i v
  | .nil => fun _ _ _ _ => ⟨fun h => ⟨trivial, h⟩, And.right⟩
  | .field _ _ _ | .entry _ _ _ _ => fun _ _ _ _ => ⟨False.elim, And.left⟩
  | .con _ r | .raw _ r => fun b s i v =>
    (and_congr_right' (denAll_append r b s i v)).trans and_assoc.symm

/-- an intersection denotes the ⋂ of its operands (the empty one: everything) -/
theorem den_intersection {ops : Ops} {i : Option Nat} {v : CVal} :
    den (.mk .intersection ops) i v ↔ denAll ops [] i v :=
  ⟨fun h => h.elim (fun e => e ▸ trivial) id, Or.inr⟩

/-- `derive`, `isSuperTypeOf` and `parts` below treat an intersection apart from every other class:
    the case split of the proofs about them -/
theorem Constr.cases_intersection {motive : Constr → Prop}
    (inter : ∀ ops, motive (.mk .intersection ops))
    (other : ∀ k ops, k ≠ .intersection → motive (.mk k ops)) : ∀ c, motive c
  | .mk k ops => if hk : k = .intersection then hk ▸ inter ops else other k ops hk

/-- the three split on the same pattern, so this one equation serves the `other` case of each -/
theorem match_intersection_of_ne {α : Sort u} {k : Cls} (hk : k ≠ .intersection) (ops : Ops)
    (A : Ops → α) (B : Constr → α) :
    (match Constr.mk k ops with | .mk .intersection o => A o | q => B q) = B (.mk k ops) := by
  cases k with
  | intersection => exact absurd rfl hk
  | _ => rfl

/-- `subtype()` wraps a subtypeSpec that is not an intersection (an intersection it extends) -/
theorem derive_of_ne {k : Cls} (hk : k ≠ .intersection) (ops : Ops) (e : Constr) :
    derive (.mk k ops) e = .mk .intersection (.con (.mk k ops) (.con e .nil)) :=
  match_intersection_of_ne hk ops _ _

/-- `subtypeSpec + extra` denotes exactly the intersection of the two sets -/
theorem derive_den (p e : Constr) (i : Option Nat) (v : CVal) :
    den (derive p e) i v ↔ den p i v ∧ den e i v := by
  cases p using Constr.cases_intersection with
  | inter ops =>
    rw [derive, den_intersection, den_intersection, denAll_append]
    exact and_congr_right' (and_iff_left trivial)
  | other k ops hk =>
    rw [derive_of_ne hk, den_intersection]
    exact and_congr_right' (and_iff_left trivial)

mutual
theorem pyEq_refl : ∀ c : Constr, pyEq c c = true
  | .mk _ ops => Bool.and_eq_true_iff.mpr ⟨beq_self_eq_true _, opsEq_refl ops⟩
theorem opsEq_refl : ∀ ops : Ops, opsEq ops ops = true
  | .nil => rfl
  | .con c r => Bool.and_eq_true_iff.mpr ⟨pyEq_refl c, opsEq_refl r⟩
  | .raw _ r => Bool.and_eq_true_iff.mpr ⟨beq_self_eq_true _, opsEq_refl r⟩
  | .field _ c r => Bool.and_eq_true_iff.mpr
      ⟨Bool.and_eq_true_iff.mpr ⟨beq_self_eq_true _, pyEq_refl c⟩, opsEq_refl r⟩
  | .entry _ c _ r => Bool.and_eq_true_iff.mpr ⟨Bool.and_eq_true_iff.mpr
      ⟨Bool.and_eq_true_iff.mpr ⟨beq_self_eq_true _, pyEq_refl c⟩, beq_self_eq_true _⟩, opsEq_refl r⟩
end

section
variable {k : Cls} {ops r : Ops} {c d self other : Constr}

/-- `getValueMap()` is filled by `AbstractConstraintSet._setValues` only -/
theorem mem_valueMap_mk (h : self ∈ valueMap (.mk k ops)) :
    (k = .intersection ∨ k = .union) ∧ self ∈ collect ops := by
  cases k with
  | intersection => exact ⟨.inl rfl, h⟩
  | union => exact ⟨.inr rfl, h⟩
  | _ => cases h

/-- `_setValues` registers a truthy operand and everything in the operand's own map -/
theorem mem_collect_con : self ∈ collect (.con c r) ↔
    (c.truthy = true ∧ (self = c ∨ self ∈ valueMap c)) ∨ self ∈ collect r := by
  show self ∈ (if c.truthy = true then c :: (valueMap c ++ collect r) else collect r) ↔ _
  split <;> simp [*, or_assoc]

theorem imposedBy_mk : imposedBy c (.mk k ops) = true ↔
    c = .mk k ops ∨ (k = .intersection ∧ imposedByOps c ops = true) := by
  show (decide (c = .mk k ops) || (k == .intersection && imposedByOps c ops)) = true ↔ _
  simp

theorem imposedByOps_con :
    imposedByOps c (.con d r) = true ↔ imposedBy c d = true ∨ imposedByOps c r = true :=
  Bool.or_eq_true_iff

theorem imposedAll_con : imposedAll (.con c r) other = true ↔
    (c.truthy = false ∨ imposedBy c other = true) ∧ imposedAll r other = true := by
  show ((!c.truthy || imposedBy c other) && imposedAll r other) = true ↔ _
  simp

theorem baseIsSuperTypeOf_iff : baseIsSuperTypeOf self other = true ↔
    self.truthy = false ∨ other = self ∨ self ∈ valueMap other := by
  simp [baseIsSuperTypeOf, or_assoc]

theorem isSuperTypeOf_intersection : isSuperTypeOf (.mk .intersection ops) other = true ↔
    baseIsSuperTypeOf (.mk .intersection ops) other = true ∨ imposedAll ops other = true :=
  Bool.or_eq_true_iff

end

theorem mem_collect : ∀ (ops : Ops) (c : Constr), c ∈ ops.conList → c.truthy = true → c ∈ collect ops
  | .nil => fun _ h _ => nomatch h
  | .con d r => fun c h ht => mem_collect_con.mpr <|
    (List.mem_cons.mp h).imp (fun (e : c = d) => ⟨e ▸ ht, .inl e⟩) (mem_collect r c · ht)
  | .raw _ r | .field _ _ r | .entry _ _ _ r => mem_collect r

theorem imposedBy_self : ∀ c : Constr, imposedBy c c = true
  | .mk _ _ => imposedBy_mk.mpr (.inl rfl)

theorem imposedByOps_of_mem : ∀ (ops : Ops) (c : Constr), c ∈ ops.conList → imposedByOps c ops = true
  | .nil => fun _ h => nomatch h
  | .con d r => fun c h => imposedByOps_con.mpr <|
    (List.mem_cons.mp h).imp (fun (e : c = d) => e ▸ imposedBy_self c) (imposedByOps_of_mem r c)
  | .raw _ r | .field _ _ r | .entry _ _ _ r => imposedByOps_of_mem r

/-- the operands of a constructible intersection are constraints, so the loop of
    `ConstraintsIntersection.isSuperTypeOf` passes once each of them is imposed -/
theorem imposedAll_of (other : Constr) : ∀ ops : Ops, wfOps Cls.intersection.shape ops = true →
    (∀ c ∈ ops.conList, imposedBy c other = true) → imposedAll ops other = true
  | .nil => fun _ _ => rfl
  | .con c r => fun hw h => imposedAll_con.mpr
    ⟨.inr (h c List.mem_cons_self),
      imposedAll_of other r (wfOps_con.mp hw).2 fun d hd => h d (List.mem_cons_of_mem c hd)⟩
  | .raw _ _ | .field _ _ _ | .entry _ _ _ _ => fun hw _ => Bool.noConfusion hw

/-- what a constraint set derived from `p` must carry: `p`'s operands (p an intersection) or `p` itself -/
def Constr.parts : Constr → List Constr
  | .mk .intersection ops => ops.conList
  | q => [q]

theorem parts_of_ne {k : Cls} (hk : k ≠ .intersection) (ops : Ops) :
    (Constr.mk k ops).parts = [.mk k ops] :=
  match_intersection_of_ne hk ops _ _

def Imposes (child p : Constr) : Prop :=
  ∃ cops, child = .mk .intersection cops ∧ ∀ c ∈ p.parts, c ∈ cops.conList

theorem derive_eq_intersection (p e : Constr) :
    ∃ cops, derive p e = .mk .intersection cops ∧
      (match p with
       | .mk .intersection ops => cops = ops.append (.con e .nil)
       | q => cops = .con q (.con e .nil)) := by
  cases p using Constr.cases_intersection with
  | inter ops => exact ⟨_, rfl, rfl⟩
  | other k ops hk => exact ⟨_, derive_of_ne hk ops e, (match_intersection_of_ne hk ops _ _).mpr rfl⟩

theorem imposes_derive (p e : Constr) : Imposes (derive p e) p := by
  cases p using Constr.cases_intersection with
  | inter ops => exact ⟨_, rfl, fun c hc => by rw [conList_append]; exact List.mem_append_left _ hc⟩
  | other k ops hk =>
    rw [derive_of_ne hk, Imposes, parts_of_ne hk]
    exact ⟨_, rfl, fun c hc => by rw [List.mem_singleton.mp hc]; exact List.mem_cons_self⟩

theorem imposes_step (child p e : Constr) (h : Imposes child p) : Imposes (derive child e) p := by
  obtain ⟨cops, rfl, hp⟩ := h
  exact ⟨_, rfl, fun c hc => by rw [conList_append]; exact List.mem_append_left _ (hp c hc)⟩

theorem imposes_chain (p : Constr) : ∀ (es : List Constr) (child : Constr),
    Imposes child p → Imposes (deriveChain child es) p
  | [], _, h => h
  | e :: es, child, h => imposes_chain p es (derive child e) (imposes_step child p e h)

/-- only an intersection looks through the other constraint's operands -/
theorem isSuperTypeOf_of_ne {k : Cls} (hk : k ≠ .intersection) (ops : Ops) (other : Constr) :
    isSuperTypeOf (.mk k ops) other = baseIsSuperTypeOf (.mk k ops) other :=
  match_intersection_of_ne hk ops _ fun _ => baseIsSuperTypeOf (.mk k ops) other

theorem super_of_imposes (p child : Constr) (hw : p.wf = true) (h : Imposes child p) :
    isSuperTypeOf p child = true := by
  obtain ⟨cops, rfl, hp⟩ := h
  cases p using Constr.cases_intersection with
  | inter ops =>
    exact isSuperTypeOf_intersection.mpr (.inr (imposedAll_of _ ops (wfOps_of_wf hw) fun c hc =>
      imposedBy_mk.mpr (.inr ⟨rfl, imposedByOps_of_mem cops c (hp c hc)⟩)))
  | other k ops hk =>
    have hm : Constr.mk k ops ∈ cops.conList :=
      hp _ (by rw [parts_of_ne hk]; exact List.mem_singleton_self _)
    rw [isSuperTypeOf_of_ne hk, baseIsSuperTypeOf_iff]
    cases ht : (Constr.mk k ops).truthy with
    | false => exact .inl rfl
    | true => exact .inr (.inr (mem_collect cops _ hm ht))

theorem super_refl (p : Constr) : isSuperTypeOf p p = true := by
  have hb : baseIsSuperTypeOf p p = true := baseIsSuperTypeOf_iff.mpr (.inr (.inl rfl))
  cases p using Constr.cases_intersection with
  | inter ops => exact isSuperTypeOf_intersection.mpr (.inl hb)
  | other k ops hk => rwa [isSuperTypeOf_of_ne hk]

theorem tag_same_refl (t : Tag) : t.same t = true := by simp [Tag.same]

theorem tagSet_same_refl : ∀ ts : TagSet, TagSet.same ts ts = true
  | [] => rfl
  | t :: ts => Bool.and_eq_true_iff.mpr ⟨tag_same_refl t, tagSet_same_refl ts⟩

theorem superTagSet_refl (ts : TagSet) : isSuperTagSetOf ts ts = true := by
  simp [isSuperTagSetOf, tagSet_same_refl]

theorem superTagSet_append (ts : TagSet) (t : Tag) : isSuperTagSetOf ts (ts ++ [t]) = true := by
  simp [isSuperTagSetOf, tagSet_same_refl]

end Asn1.Constraint
