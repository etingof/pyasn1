/-
  Proofs.ContainerDict — what the container proofs share: Python indexing on lists, the
  position-keyed dict of a SEQUENCE OF in its dense form `enumFrom 0 cs` (keys 0..n-1 in insertion
  order: lookups, assignment, length and the sorted component view all reduce to plain list
  operations), and the simulation relation of the refinement theorems with its lifting from single
  calls to histories.
-/
import Asn1.Container

namespace Asn1.Container

theorem setNth_eq_set {α} (l : List α) (k : Nat) (a : α) : setNth l k a = l.set k a := by
  induction l generalizing k with
  | nil => rfl
  | cons x l ih =>
    cases k with
    | zero => rfl
    | succ k => exact congrArg (x :: ·) (ih k)

theorem pyIdx_lt {n : Nat} {i : Int} {k : Nat} (h : pyIdx n i = some k) : k < n := by
  unfold pyIdx at h
  by_cases h0 : 0 ≤ i
  · by_cases h1 : i.toNat < n
    · rw [if_pos h0, if_pos h1] at h; cases h; exact h1
    · rw [if_pos h0, if_neg h1] at h; cases h
  · by_cases h1 : -i ≤ (n : Int)
    · rw [if_neg h0, if_pos h1] at h; cases h; omega
    · rw [if_neg h0, if_neg h1] at h; cases h

theorem pyIdx_get {α} {l : List α} {i : Int} {k : Nat} (h : pyIdx l.length i = some k) : ∃ x, l[k]? = some x :=
  ⟨_, List.getElem?_eq_getElem (pyIdx_lt h)⟩

theorem pyIdx_zero (i : Int) : pyIdx 0 i = none := by
  cases h : pyIdx 0 i with
  | none => rfl
  | some k => exact absurd (pyIdx_lt h) (Nat.not_lt_zero k)

theorem pyIdx_nat {n k : Nat} (h : k < n) : pyIdx n (k : Int) = some k := by
  simp [pyIdx, h]

theorem set_same {α} {l : List α} {k : Nat} {x : α} (h : l[k]? = some x) : l.set k x = l := by
  obtain ⟨hk, rfl⟩ := List.getElem?_eq_some_iff.mp h
  exact List.set_getElem_self hk

theorem filterMap_range_get {α} (l : List α) : (List.range l.length).filterMap (fun k => l[k]?) = l := by
  induction l with
  | nil => rfl
  | cons a l ih =>
    rw [List.length_cons, List.range_succ_eq_map, List.filterMap_cons]
    simp only [List.getElem?_cons_zero, List.filterMap_map]
    exact congrArg (a :: ·) ih

theorem enumFrom_length {α} (k : Nat) (cs : List α) : (enumFrom k cs).length = cs.length := by
  induction cs generalizing k with
  | nil => rfl
  | cons c cs ih => exact congrArg (· + 1) (ih (k + 1))

theorem enumFrom_map_snd {α} (k : Nat) (cs : List α) : (enumFrom k cs).map (·.2) = cs := by
  induction cs generalizing k with
  | nil => rfl
  | cons c cs ih => exact congrArg (c :: ·) (ih (k + 1))

theorem enumFrom_append {α} (k : Nat) (cs ds : List α) :
    enumFrom k (cs ++ ds) = enumFrom k cs ++ enumFrom (k + cs.length) ds := by
  induction cs generalizing k with
  | nil => rfl
  | cons c cs ih =>
    dsimp only [List.cons_append, enumFrom, List.length_cons]
    rw [ih, Nat.add_assoc, Nat.add_comm 1]

theorem enumFrom_map {α β} (f : α → β) (k : Nat) (cs : List α) :
    enumFrom k (cs.map f) = (enumFrom k cs).map (fun kv => (kv.1, f kv.2)) := by
  induction cs generalizing k with
  | nil => rfl
  | cons c cs ih => exact congrArg ((k, f c) :: ·) (ih (k + 1))

theorem enumFrom_fst_ge {α} (k : Nat) (cs : List α) : ∀ kv ∈ enumFrom k cs, k ≤ kv.1 := by
  induction cs generalizing k with
  | nil => nofun
  | cons c cs ih =>
    intro kv h
    rcases List.mem_cons.mp h with rfl | h
    · exact Nat.le_refl _
    · exact Nat.le_of_succ_le (ih (k + 1) kv h)

theorem enumFrom_sorted (k : Nat) (cs : List Comp) :
    (enumFrom k cs).Pairwise (fun a b => (decide (a.1 ≤ b.1)) = true) := by
  induction cs generalizing k with
  | nil => exact .nil
  | cons c cs ih =>
    refine .cons (fun kv h => ?_) (ih (k + 1))
    exact decide_eq_true (Nat.le_of_succ_le (enumFrom_fst_ge (k + 1) cs kv h))

theorem filter_enumFrom_self {α} (p : α → Bool) (k : Nat) (cs : List α) (h : ∀ c ∈ cs, p c = true) :
    (enumFrom k cs).filter (fun kv => p kv.2) = enumFrom k cs := by
  refine List.filter_eq_self.mpr fun kv hkv => h kv.2 ?_
  have : kv.2 ∈ (enumFrom k cs).map (·.2) := List.mem_map_of_mem hkv
  rwa [enumFrom_map_snd] at this

theorem all_snd_enumFrom {α} (p : α → Bool) (k : Nat) (cs : List α) :
    (enumFrom k cs).all (fun kv => p kv.2) = cs.all p := by
  induction cs generalizing k with
  | nil => rfl
  | cons c cs ih => rw [enumFrom, List.all_cons, List.all_cons, ih]

theorem filter_enumFrom_snd {α} (p : α → Bool) (j : Nat) (l : List α) :
    ((enumFrom j l).filter (fun kv => p kv.2)).map (·.2) = l.filter p := by
  induction l generalizing j with
  | nil => rfl
  | cons x xs ih =>
    simp only [enumFrom, List.filter_cons]
    cases p x <;> simp [ih]

theorem enumFrom_fst_get {α} (j i : Nat) (cs : List α) (h : i < cs.length) :
    ((enumFrom j cs).map (·.1)).getD i 0 = j + i := by
  induction cs generalizing j i with
  | nil => cases h
  | cons c cs ih =>
    cases i with
    | zero => rfl
    | succ i =>
      rw [enumFrom, List.map_cons, List.getD_cons_succ, ih (j + 1) i (Nat.lt_of_succ_lt_succ h)]
      omega

theorem dcomponents_enumFrom (k : Nat) (cs : List Comp) : dcomponents (enumFrom k cs) = cs := by
  unfold dcomponents
  rw [List.mergeSort_of_pairwise (enumFrom_sorted k cs), enumFrom_map_snd]

theorem dget_enumFrom (k i : Nat) (cs : List Comp) :
    dget (enumFrom k cs) (k + i) = cs[i]? := by
  induction cs generalizing k i with
  | nil => rfl
  | cons c cs ih =>
    cases i with
    | zero => simp [dget, enumFrom]
    | succ i =>
      have h : (k + (i + 1) == k) = false := by simp
      rw [dget, enumFrom, List.lookup, h, show k + (i + 1) = k + 1 + i by omega]
      exact ih (k + 1) i

theorem dget_enumFrom0 (i : Nat) (cs : List Comp) : dget (enumFrom 0 cs) i = cs[i]? := by
  simpa using dget_enumFrom 0 i cs

theorem foldl_max_enumFrom (k : Nat) (cs : List Comp) :
    (enumFrom k cs).foldl (fun m kv => max m (kv.1 + 1)) k = k + cs.length := by
  induction cs generalizing k with
  | nil => rfl
  | cons c cs ih =>
    rw [enumFrom, List.foldl_cons, Nat.max_eq_right (Nat.le_succ k), ih, List.length_cons]
    omega

theorem dlen_enumFrom0 (cs : List Comp) : dlen (enumFrom 0 cs) = cs.length := by
  simpa [dlen] using foldl_max_enumFrom 0 cs

theorem dset_enumFrom (k i : Nat) (cs : List Comp) (c : Comp) (h : i ≤ cs.length) :
    dset (enumFrom k cs) (k + i) c = enumFrom k (if i < cs.length then cs.set i c else cs ++ [c]) := by
  induction cs generalizing k i with
  | nil => cases Nat.le_zero.mp h; rfl
  | cons x cs ih =>
    cases i with
    | zero => simp [enumFrom, dset]
    | succ i =>
      have hne : ¬ k = k + (i + 1) := by omega
      have h' : i ≤ cs.length := Nat.le_of_succ_le_succ h
      rw [enumFrom, dset, if_neg hne, show k + (i + 1) = k + 1 + i by omega, ih (k + 1) i h']
      by_cases hlt : i < cs.length
      · simp [hlt, enumFrom]
      · simp [hlt, enumFrom]

theorem dset_enumFrom0 (i : Nat) (cs : List Comp) (c : Comp) (h : i ≤ cs.length) :
    dset (enumFrom 0 cs) i c = enumFrom 0 (if i < cs.length then cs.set i c else cs ++ [c]) := by
  simpa using dset_enumFrom 0 i cs c h

/-- One step of a refinement: the object's call `r` and the prototype's call `q` give the same
    result, the object's new state abstracts to the prototype's new state, and the shape invariant
    holds again.  (SEQUENCE OF runs the other way: `r` is the prototype's call, `abs` the
    representation of a prototype state as an object, `inv` the prototype's invariant.) -/
def Sim {σ τ β} (abs : σ → τ) (inv : σ → Prop) (r : σ × β) (q : τ × β) : Prop :=
  r.2 = q.2 ∧ abs r.1 = q.1 ∧ inv r.1

variable {σ τ β γ : Type} {abs : σ → τ} {inv : σ → Prop}

theorem Sim.abs_eq {r : σ × β} {q : τ × β} (h : Sim abs inv r q) : abs r.1 = q.1 := h.2.1

theorem Sim.inv_fst {r : σ × β} {q : τ × β} (h : Sim abs inv r q) : inv r.1 := h.2.2

theorem Sim.spec_eq {r : σ × β} {q : τ × β} (h : Sim abs inv r q) : q = (abs r.1, r.2) :=
  Prod.ext h.abs_eq.symm h.1.symm

theorem Sim.answer {st : σ} (h : inv st) {b b' : β} (hb : b = b') : Sim abs inv (st, b) (abs st, b') :=
  ⟨hb, rfl, h⟩

theorem Sim.same {st : σ} (h : inv st) (b : β) : Sim abs inv (st, b) (abs st, b) := Sim.answer h rfl

theorem Sim.read {st : σ} {r : σ × β} {q : τ × β} (h : inv st) (hr : r.1 = st) (hq : q = (abs st, r.2)) :
    Sim abs inv r q :=
  ⟨(congrArg Prod.snd hq).symm, (congrArg abs hr).trans (congrArg Prod.fst hq).symm, hr ▸ h⟩

theorem Sim.map {r : σ × β} {q : τ × β} (h : Sim abs inv r q) (f : β → γ) :
    Sim abs inv (r.1, f r.2) (q.1, f q.2) := ⟨congrArg f h.1, h.2⟩

/-- a call by name or tag: the position lookup may fail (`err`), then the call by position `g`, whose
    answer `f` may rename; the two sides look the position up in their own way (`hp`) -/
theorem Sim.lookup {st : σ} {g : Int → σ × β} {g' : Int → τ × β} (hinv : inv st)
    (h : ∀ i, Sim abs inv (g i) (g' i)) {p p' : Option Int} (hp : p = p') (err : γ) (f : β → γ) :
    Sim abs inv
      (match p with
        | none => (st, err)
        | some i => ((g i).1, f (g i).2))
      (match (generalizing := false) p' with
        | none => (abs st, err)
        | some i => ((g' i).1, f (g' i).2)) := by
  subst hp
  cases p with
  | none => exact Sim.same hinv err
  | some i => exact (h i).map f

/-- **a step-wise simulation lifts to histories.**  `run` and `run'` are any functions with the two
    unfolding equations of the model's `run`s; `ok st ops` is what a history `ops` has to satisfy from
    `st` on for its steps to simulate, and it is handed down along the run -/
theorem Sim.run {ω : Type} {step : σ → ω → σ × β} {step' : τ → ω → τ × β}
    {run : σ → List ω → σ × List β} {run' : τ → List ω → τ × List β} {ok : σ → List ω → Prop}
    (h0 : ∀ st, run st [] = (st, [])) (h0' : ∀ s, run' s [] = (s, []))
    (h1 : ∀ st op ops, run st (op :: ops) =
      ((run (step st op).1 ops).1, (step st op).2 :: (run (step st op).1 ops).2))
    (h1' : ∀ s op ops, run' s (op :: ops) =
      ((run' (step' s op).1 ops).1, (step' s op).2 :: (run' (step' s op).1 ops).2))
    (hstep : ∀ st op ops, inv st → ok st (op :: ops) →
      Sim abs inv (step st op) (step' (abs st) op) ∧ ok (step st op).1 ops)
    (ops : List ω) : ∀ st, inv st → ok st ops → Sim abs inv (run st ops) (run' (abs st) ops) := by
  induction ops with
  | nil => intro st h _; rw [h0, h0']; exact Sim.same h []
  | cons op ops ih =>
    intro st h hok
    obtain ⟨⟨s1, s2, s3⟩, hok'⟩ := hstep st op ops h hok
    obtain ⟨i1, i2, i3⟩ := ih _ s3 hok'
    rw [h1, h1', ← s2]
    exact ⟨by rw [s1, i1], i2, i3⟩

end Asn1.Container
