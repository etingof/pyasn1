/-
  Proofs.PrimRT — content octets of the primitive types: decode ∘ encode = id; cutting a string into
  chunks and joining them gives it back.
-/
import Asn1.Prim
import Asn1.Encoder
import Proofs.TagLen

namespace Asn1

theorem intToBytes_small (z : Int) (h : -128 ≤ z ∧ z < 128) :
    intToBytes z = [UInt8.ofNat (z % 256).toNat] := by
  rw [intToBytes, if_pos h]

theorem intToBytes_big (z : Int) (h : ¬ (-128 ≤ z ∧ z < 128)) :
    intToBytes z = intToBytes (z / 256) ++ [UInt8.ofNat (z % 256).toNat] := by
  rw [intToBytes, if_neg h]

theorem intToBytes_ne_nil (z : Int) : intToBytes z ≠ [] := by
  by_cases h : -128 ≤ z ∧ z < 128
  · rw [intToBytes_small z h]; exact List.cons_ne_nil _ _
  · rw [intToBytes_big z h]; exact List.append_ne_nil_of_right_ne_nil _ (List.cons_ne_nil _ _)

theorem intFromBytesAux_append (acc : Int) (bs : Bytes) (b : UInt8) :
    intFromBytesAux acc (bs ++ [b]) = intFromBytesAux acc bs * 256 + b.toNat := by
  induction bs generalizing acc with
  | nil => rfl
  | cons x xs ih => exact ih _

theorem intFromBytes_append (bs : Bytes) (b : UInt8) (h : bs ≠ []) :
    intFromBytes (bs ++ [b]) = intFromBytes bs * 256 + b.toNat := by
  cases bs with
  | nil => exact absurd rfl h
  | cons x xs => exact intFromBytesAux_append _ xs b

theorem byte_of_emod (z : Int) : (UInt8.ofNat (z % 256).toNat).toNat = (z % 256).toNat := by
  apply toNat_ofNat_lt
  have := Int.emod_lt_of_pos z (by decide : (0 : Int) < 256)
  omega

theorem intFromBytes_intToBytes (z : Int) : intFromBytes (intToBytes z) = z := by
  induction z using intToBytes.induct with
  | case1 z hs =>
    rw [intToBytes_small z hs, intFromBytes, intFromBytesAux, byte_of_emod]
    -- one octet: `z` itself from 0 up, `z + 256` below
    by_cases h0 : 0 ≤ z
    · rw [Int.emod_eq_of_lt h0 (by omega), if_pos (by omega), Int.toNat_of_nonneg h0]
    · rw [← Int.add_emod_right, Int.emod_eq_of_lt (by omega) (by omega), if_neg (by omega)]
      omega
  | case2 z hs ih =>
    rw [intToBytes_big z hs, intFromBytes_append _ _ (intToBytes_ne_nil _), ih, byte_of_emod,
      Int.toNat_of_nonneg (Int.emod_nonneg z (by decide))]
    exact Int.ediv_mul_add_emod z 256

theorem encodeArc_small (n : Nat) (h : n < 128) : encodeArc n = [UInt8.ofNat n] := by
  rw [encodeArc, if_pos h]

theorem encodeArc_big (n : Nat) (h : ¬ n < 128) :
    encodeArc n = natsToBytes ((be128 (n / 128)).map (· + 0x80)) ++ [UInt8.ofNat (n % 128)] := by
  rw [encodeArc, if_neg h]
  exact cont_be128 n (by omega)

/-- a multi-octet sub-identifier read from the start of an arc: its first octet is taken in the `none`
    state, where a leading 80 (a zero leading digit) is refused; the others in the `some` state, which is
    a loop with the two equations of `contLoop` -/
theorem decodeArcs_long {d : Nat} (hd : d < 128) (rest : Bytes) : ∀ qs : List Nat, (∀ x ∈ qs, x < 128) →
    qs ≠ [] → qs.head? ≠ some 0 →
    decodeArcs none (natsToBytes (qs.map (· + 0x80)) ++ UInt8.ofNat d :: rest)
      = (decodeArcs none rest).map ((ofBeDigits 126 qs * 128 + d) :: ·)
  | [], _, hne, _ => absurd rfl hne
  | d0 :: ds, hlt, _, hhead => by
    have hd0 : d0 < 128 := hlt d0 (List.mem_cons_self ..)
    have hd0' : d0 ≠ 0 := fun h0 => hhead (by rw [h0]; rfl)
    rw [List.map_cons, natsToBytes_cons, List.cons_append, decodeArcs,
      toNat_ofNat_lt (d0 + 128) (by omega), if_neg (by omega), if_neg (by omega), Nat.add_mod_right,
      Nat.mod_eq_of_lt hd0, ofBeDigits, List.foldl_cons, Nat.zero_mul, Nat.zero_add]
    exact contLoop (fun acc => decodeArcs (some acc)) (fun a r => (decodeArcs none r).map (a :: ·))
      (fun _ _ _ h => by rw [decodeArcs, if_pos h]) (fun _ _ _ h => by rw [decodeArcs, if_neg h]) hd rest
      ds d0 fun y hy => hlt y (List.mem_cons_of_mem _ hy)

theorem decodeArcs_encodeArc (n : Nat) (rest : Bytes) :
    decodeArcs none (encodeArc n ++ rest) = (decodeArcs none rest).map (n :: ·) := by
  by_cases hs : n < 128
  · rw [encodeArc_small n hs, List.singleton_append, decodeArcs, toNat_ofNat_lt n (by omega), if_pos hs]
  · rw [encodeArc_big n hs, List.append_assoc, List.singleton_append,
      decodeArcs_long (Nat.mod_lt _ (by decide)) rest _ (beDigits_lt 126 _)
        (beDigits_ne_nil 126 _ (by omega)) (beDigits_head_ne_zero 126 _),
      show ofBeDigits 126 (be128 (n / 128)) = n / 128 from ofBe_be 126 _, Nat.div_add_mod']

theorem decodeArcs_flatMap (arcs : List Nat) :
    decodeArcs none (arcs.flatMap encodeArc) = .ok arcs := by
  induction arcs with
  | nil => simp [decodeArcs]
  | cons a rest ih =>
    simp only [List.flatMap_cons]
    rw [decodeArcs_encodeArc, ih]
    rfl

theorem encodeArc_ne_nil (n : Nat) : encodeArc n ≠ [] := by
  by_cases h : n < 128
  · rw [encodeArc_small n h]; exact List.cons_ne_nil _ _
  · rw [encodeArc_big n h]; exact List.append_ne_nil_of_right_ne_nil _ (List.cons_ne_nil _ _)

theorem oidToContent_cons (x y : Nat) (rest : List Nat) :
    oidToContent (x :: y :: rest) =
      if x ≤ 1 ∧ y ≤ 39 ∨ x = 2 then some (((40 * x + y) :: rest).flatMap encodeArc) else none := by
  rw [oidToContent]
  match x with
  | 0 => by_cases hy : y ≤ 39 <;> simp [hy]
  | 1 => by_cases hy : y ≤ 39 <;> simp [hy, Nat.add_comm]
  | 2 => by_cases hy : y ≤ 39 <;> simp [hy, Nat.add_comm]
  | x + 3 => by_cases hy : y ≤ 39 <;> simp [hy]

theorem oidToContent_cases {arcs : List Nat} {c : Bytes} (h : oidToContent arcs = some c) :
    ∃ x y rest, arcs = x :: y :: rest ∧ (x ≤ 1 ∧ y ≤ 39 ∨ x = 2) ∧
      c = ((40 * x + y) :: rest).flatMap encodeArc := by
  match arcs, h with
  | x :: y :: rest, h =>
    rw [oidToContent_cons] at h
    split at h
    · rename_i hxy; cases h; exact ⟨x, y, rest, rfl, hxy, rfl⟩
    · cases h

theorem oidToContent_ne_nil {arcs : List Nat} {c : Bytes} (h : oidToContent arcs = some c) : c ≠ [] := by
  obtain ⟨x, y, rest, -, -, rfl⟩ := oidToContent_cases h
  exact fun h0 => encodeArc_ne_nil _ (List.append_eq_nil_iff.mp h0).1

theorem oidFromContent_arcs {bs : Bytes} {a : Nat} {rest : List Nat} (hne : bs ≠ [])
    (hd : decodeArcs none bs = .ok (a :: rest)) :
    oidFromContent bs = if a ≤ 39 then .ok (0 :: a :: rest) else if a ≤ 79 then .ok (1 :: (a - 40) :: rest)
      else .ok (2 :: (a - 80) :: rest) := by
  cases bs with
  | nil => exact absurd rfl hne
  | cons b bs => simp only [oidFromContent, hd]

theorem oidFromContent_oidToContent (arcs : List Nat) (c : Bytes) (h : oidToContent arcs = some c) :
    oidFromContent c = .ok arcs := by
  have hne := oidToContent_ne_nil h
  obtain ⟨x, y, rest, rfl, hxy, rfl⟩ := oidToContent_cases h
  rw [oidFromContent_arcs hne (decodeArcs_flatMap _)]
  rcases hxy with ⟨hx, hy⟩ | rfl
  · rcases Nat.le_one_iff_eq_zero_or_eq_one.mp hx with rfl | rfl
    · rw [if_pos (by omega)]; simp
    · rw [if_neg (by omega), if_pos (by omega)]; simp
  · rw [if_neg (by omega), if_neg (by omega)]; simp

theorem bitsToNat_lt : ∀ l : List Bool, bitsToNat l < 2 ^ l.length
  | [] => by simp [bitsToNat]
  | b :: l => by
    have := bitsToNat_lt l
    rw [bitsToNat, List.length_cons, Nat.pow_succ]
    split <;> omega

theorem bitsToNat_append : ∀ (xs ys : List Bool), bitsToNat (xs ++ ys) = bitsToNat xs * 2 ^ ys.length + bitsToNat ys
  | [], ys => by simp [bitsToNat]
  | b :: xs, ys => by
    simp only [List.cons_append, bitsToNat, bitsToNat_append xs ys, List.length_append, Nat.pow_add, Nat.add_mul]
    cases b <;> simp [Nat.add_assoc]

theorem byteToBits_length (b : UInt8) : (byteToBits b).length = 8 := rfl

theorem unpackBits_cons (b : UInt8) (rest : Bytes) : unpackBits (b :: rest) = byteToBits b ++ unpackBits rest := by
  simp [unpackBits, List.flatMap_cons]

theorem unpackBits_length : ∀ (bs : Bytes), (unpackBits bs).length = 8 * bs.length
  | [] => rfl
  | b :: rest => by
    rw [unpackBits_cons, List.length_append, byteToBits_length, unpackBits_length rest, List.length_cons]; omega

/-- the `k` low bits of `n`, most significant first -/
def lowBits : Nat → Nat → List Bool
  | 0, _ => []
  | k + 1, n => decide (n / 2 ^ k % 2 = 1) :: lowBits k n

theorem lowBits_add (c m : Nat) : ∀ k j, lowBits k (c * 2 ^ (k + j) + m) = lowBits k m
  | 0, _ => rfl
  | k + 1, j => by
    have h := lowBits_add c m k (j + 1)
    rw [show k + (j + 1) = k + 1 + j by omega] at h
    rw [lowBits, lowBits, h, show k + 1 + j = j + 1 + k by omega, Nat.pow_add, ← Nat.mul_assoc,
      Nat.add_comm, Nat.add_mul_div_right _ _ (Nat.two_pow_pos k), Nat.pow_succ, ← Nat.mul_assoc,
      Nat.add_mul_mod_self_right]

theorem lowBits_bitsToNat : ∀ l : List Bool, lowBits l.length (bitsToNat l) = l
  | [] => rfl
  | b :: l => by
    have hlt := bitsToNat_lt l
    have ih := lowBits_bitsToNat l
    rw [List.length_cons, lowBits, bitsToNat]
    cases b
    · rw [if_neg (by simp), Nat.zero_add, ih, Nat.div_eq_of_lt hlt]; rfl
    · have := lowBits_add 1 (bitsToNat l) l.length 0
      rw [Nat.add_zero, Nat.one_mul] at this
      rw [if_pos rfl, this, ih, Nat.add_comm, Nat.add_div_right _ (Nat.two_pow_pos _),
        Nat.div_eq_of_lt hlt]; rfl

theorem lowBits_length : ∀ k n : Nat, (lowBits k n).length = k
  | 0, _ => rfl
  | k + 1, n => congrArg (· + 1) (lowBits_length k n)

theorem bitsToNat_lowBits (n : Nat) : ∀ k : Nat, bitsToNat (lowBits k n) = n % 2 ^ k
  | 0 => by rw [Nat.pow_zero, Nat.mod_one]; rfl
  | k + 1 => by
    rw [lowBits, bitsToNat, bitsToNat_lowBits n k, lowBits_length, Nat.mod_pow_succ]
    rcases Nat.mod_two_eq_zero_or_one (n / 2 ^ k) with h | h <;> simp [h, Nat.add_comm]

theorem byteToBits_eq (b : UInt8) : byteToBits b = lowBits 8 b.toNat := by
  simp [byteToBits, lowBits]

theorem bitsToNat_byte (b : UInt8) : bitsToNat (byteToBits b) = b.toNat := by
  rw [byteToBits_eq, bitsToNat_lowBits, Nat.mod_eq_of_lt (UInt8.toNat_lt b)]

theorem byteToBits_packByte (l : List Bool) (h : l.length ≤ 8) :
    byteToBits (packByte l) = l ++ List.replicate (8 - l.length) false := by
  generalize hm : l ++ List.replicate (8 - l.length) false = m
  have hlen : m.length = 8 := by rw [← hm, List.length_append, List.length_replicate]; omega
  have hlt := bitsToNat_lt m
  rw [byteToBits_eq, packByte, hm, toNat_ofNat_lt _ (by rw [hlen] at hlt; exact hlt), ← hlen,
    lowBits_bitsToNat]

theorem padLen_lt (n : Nat) : padLen n < 8 := by unfold padLen; omega

theorem padLen_sub8 (n : Nat) (h : 8 ≤ n) : padLen (n - 8) = padLen n := by
  unfold padLen; rw [← Nat.mod_eq_sub_mod h]

theorem padLen_short (n : Nat) (h0 : n ≠ 0) (h : n < 8) : padLen n = 8 - n := by
  unfold padLen; rw [Nat.mod_eq_of_lt h, Nat.mod_eq_of_lt (by omega)]

theorem packBits_nil (fuel : Nat) : packBits fuel [] = [] := by cases fuel <;> rfl

/-- the first octet's worth of the padded bits and what is left: the padding only ever fills the last octet -/
theorem take8_pad (l : List Bool) (hne : l ≠ []) :
    (l ++ List.replicate (padLen l.length) false).take 8
        = l.take 8 ++ List.replicate (8 - (l.take 8).length) false ∧
      (l ++ List.replicate (padLen l.length) false).drop 8
        = l.drop 8 ++ List.replicate (padLen (l.drop 8).length) false := by
  have h0 : l.length ≠ 0 := fun h => hne (List.eq_nil_of_length_eq_zero h)
  rw [List.length_take, List.length_drop]
  by_cases h8 : 8 ≤ l.length
  · rw [List.take_append_of_le_length h8, List.drop_append_of_le_length h8, Nat.min_eq_left h8,
      padLen_sub8 _ h8, Nat.sub_self, List.replicate_zero, List.append_nil]
    exact ⟨rfl, rfl⟩
  · have hp := padLen_short _ h0 (by omega)
    have hlen : (l ++ List.replicate (padLen l.length) false).length ≤ 8 := by
      rw [List.length_append, List.length_replicate, hp]; omega
    rw [List.take_of_length_le hlen, List.drop_of_length_le hlen,
      List.take_of_length_le (l := l) (by omega), List.drop_of_length_le (l := l) (by omega),
      Nat.min_eq_right (by omega), hp, Nat.sub_eq_zero_of_le (show l.length ≤ 8 by omega)]
    exact ⟨rfl, rfl⟩

theorem unpack_pack : ∀ (fuel : Nat) (l : List Bool), l.length ≤ 8 * fuel →
    unpackBits (packBits fuel l) = l ++ List.replicate (padLen l.length) false
  | fuel, [], _ => by rw [packBits_nil]; rfl
  | fuel + 1, b :: bs, h => by
    obtain ⟨h1, h2⟩ := take8_pad (b :: bs) (List.cons_ne_nil _ _)
    rw [packBits, unpackBits_cons, byteToBits_packByte _ (List.length_take_le ..),
      unpack_pack fuel _ (by rw [List.length_drop]; omega), ← h1, ← h2, List.take_append_drop]
    exact List.cons_ne_nil _ _

theorem bitsFromContent_bitsToContent (bs : List Bool) :
    bitsFromContent (bitsToContent bs) = .ok bs := by
  unfold bitsToContent bitsFromContent
  have hp := padLen_lt bs.length
  have h1 : (UInt8.ofNat (padLen bs.length)).toNat = padLen bs.length := toNat_ofNat_lt _ (by omega)
  simp only [h1]
  have a1 : ¬ (padLen bs.length > 7) := by omega
  simp only [a1, if_false]
  rw [unpack_pack bs.length bs (by omega)]
  simp

/-- cutting a list into pieces of `n > 0` elements and joining them gives it back, when the fuel covers
    the length; `ch` stands for `chunkBytes n` and `chunkBits n`, which have these two equations -/
theorem chunk_flatten {α} (n : Nat) (hn : 0 < n) (ch : Nat → List α → List (List α))
    (hnil : ∀ fuel, ch fuel [] = [])
    (hstep : ∀ fuel a l, ch (fuel + 1) (a :: l) = (a :: l).take n :: ch fuel ((a :: l).drop n)) :
    ∀ (fuel : Nat) (l : List α), l.length ≤ fuel → (ch fuel l).flatten = l
  | _, [], _ => by rw [hnil]; rfl
  | 0, _ :: _, h => absurd h (Nat.not_succ_le_zero _)
  | fuel + 1, a :: l, h => by
    rw [hstep, List.flatten_cons,
      chunk_flatten n hn ch hnil hstep fuel _ (by rw [List.length_drop]; omega)]
    exact List.take_append_drop n (a :: l)

theorem chunkBytes_nil (n k : Nat) : chunkBytes n k [] = [] := by
  cases k <;> rfl

theorem chunkBytes_succ (n k : Nat) (l : Bytes) (h : l ≠ []) :
    chunkBytes n (k + 1) l = l.take n :: chunkBytes n k (l.drop n) := by
  cases l with
  | nil => exact absurd rfl h
  | cons b r => rfl

theorem chunkBytes_flatten (n : Nat) (hn : 0 < n) : ∀ (fuel : Nat) (bs : Bytes), bs.length ≤ fuel →
    (chunkBytes n fuel bs).flatten = bs :=
  chunk_flatten n hn (chunkBytes n) (chunkBytes_nil n) fun k a l => chunkBytes_succ n k (a :: l) (List.cons_ne_nil a l)

theorem chunkBits_flatten (n : Nat) (hn : 0 < n) : ∀ (fuel : Nat) (bs : List Bool), bs.length ≤ fuel →
    (chunkBits n fuel bs).flatten = bs :=
  chunk_flatten n hn (chunkBits n) (fun fuel => by cases fuel <;> rfl) fun _ _ _ => rfl

end Asn1
