/-
  Proofs.TimeInstant — the text `fromDateTime` writes, read per X.680 (`instant`), is the datetime's own
  instant — outside the region of the known finding `from-fraction-unpadded` (0 < ms < 100).
-/
import Proofs.TimeRoundtrip
import Proofs.TimeCanon

namespace Asn1.Time

theorem num2_pad2 {n : Nat} (h : n < 100) (r : List Char) : num2 (pad2 n ++ r) = n := by
  rw [num2, List.take_left' (length_pad2 h), digitsVal_pad2 h, Nat.zero_mul, Nat.zero_add]

/-- the X.680 counterpart of `zoneSplit_sign` -/
theorem readZone_sign (k : Kind) {body z : List Char} (hp : '+' ∉ body) (hm : '-' ∉ body) (hz : AllDig z)
    (hlen : z.length = 4) {hh mm : Nat} (eh : num2 z = hh) (em : num2 (z.drop 2) = mm) (h1 : hh < 24)
    (h2 : mm < 60) (plus : Bool) :
    readZone k (body ++ (if plus then '+' else '-') :: z)
      = some (body, some (if plus then Int.ofNat (hh * 60 + mm) else - Int.ofNat (hh * 60 + mm))) := by
  have hne : z ≠ [] := by intro e; rw [e] at hlen; cases hlen
  obtain ⟨e1, e2, e3⟩ := sign_partition hp hm hz plus
  unfold readZone
  rw [if_neg (getLast?_digits_ne_Z body _ hz hne), if_pos e2]
  simp only [e1, e3, hlen, allDig_of hz, eh, em, h1, h2, and_self, true_or, if_true]

theorem readZone_zoneText (k : Kind) {body : List Char} (hp : '+' ∉ body) (hm : '-' ∉ body)
    {off : Option Int} (ho : ∀ o, off = some o → -1440 < o ∧ o < 1440) :
    readZone k (body ++ zoneText off) = some (body, some (off.getD 0)) := by
  rcases zoneText_cases ho with ⟨e, h0⟩ | ⟨plus, hh, mm, h1, h2, e, h0⟩
  · rw [e, h0]; exact readZone_Z k body
  · obtain ⟨hz, hl, _, hd⟩ := hhmm_digits (by omega : hh < 100) (by omega : mm < 100)
    rw [e, h0, readZone_sign k hp hm hz hl (num2_pad2 (by omega) _)
      (by rw [hd, ← List.append_nil (pad2 mm)]; exact num2_pad2 (by omega) _) h1 h2 plus]
    simp only [Int.ofNat_eq_natCast, Int.natCast_add, Int.natCast_mul, Int.cast_ofNat_Int]

theorem drop_pad2 {n : Nat} (h : n < 100) (r : List Char) (j : Nat) : (pad2 n ++ r).drop (j + 2) = r.drop j := by
  rw [pad2_lt h]; rfl

theorem num2_mdhms {dt : DT} (v : ValidDT dt) :
    num2 (mdhms dt) = dt.month ∧ num2 ((mdhms dt).drop 2) = dt.day ∧ num2 ((mdhms dt).drop 4) = dt.hour
      ∧ num2 ((mdhms dt).drop 6) = dt.minute ∧ num2 ((mdhms dt).drop 8) = dt.second := by
  obtain ⟨h1, h2, h3, h4, h5⟩ := v.fields_lt
  have e5 : num2 (pad2 dt.second) = dt.second := by
    rw [← List.append_nil (pad2 dt.second)]; exact num2_pad2 h5 _
  rw [mdhms_assoc]
  refine ⟨num2_pad2 h1 _, ?_, ?_, ?_, ?_⟩
  · rw [drop_pad2 h1 _ 0]; exact num2_pad2 h2 _
  · rw [drop_pad2 h1 _ 2, drop_pad2 h2 _ 0]; exact num2_pad2 h3 _
  · rw [drop_pad2 h1 _ 4, drop_pad2 h2 _ 2, drop_pad2 h3 _ 0]; exact num2_pad2 h4 _
  · rw [drop_pad2 h1 _ 6, drop_pad2 h2 _ 4, drop_pad2 h3 _ 2, drop_pad2 h4 _ 0]; exact e5

/-- The X.680 counterpart of `asDateTime_parts`: the instant of a text ending in the zone designator
    `fromDateTime` writes, given what `readFrac` makes of the rest, that the kind's reading of the year digits `Y`
    is the year, and that the fraction digits come to the datetime's microseconds. -/
theorem instant_parts {k : Kind} {text Y f : List Char} {dt : DT} (v : ValidDT dt)
    (hp : '+' ∉ text) (hm : '-' ∉ text) (hf : readFrac k text = some (Y ++ mdhms dt, f)) (hY : AllDig Y)
    (hl : Y.length = k.yearsDigits)
    (hy : (if k.yearsDigits = 4 then digitsVal 0 ((Y ++ mdhms dt).take 4)
      else if num2 (Y ++ mdhms dt) ≤ 68 then 2000 + num2 (Y ++ mdhms dt) else 1900 + num2 (Y ++ mdhms dt)) = dt.year)
    (ht : todOf ((dt.hour * 3600 + dt.minute * 60 + dt.second) * 1000000) 1000000 f
      = ((dt.hour * 3600 + dt.minute * 60 + dt.second) * 1000000 + dt.micro, 0)) :
    instant k (text ++ zoneText dt.off) = some ({ dt with off := some (dt.off.getD 0) } : DT).instant := by
  obtain ⟨n1, n2, n3, n4, n5⟩ := num2_mdhms v
  have hv : 1 ≤ dt.month ∧ dt.month ≤ 12 ∧ 1 ≤ dt.day ∧ dt.day ≤ daysIn dt.year dt.month ∧ dt.hour < 24
      ∧ dt.minute < 60 ∧ dt.second < 60 := ⟨v.month.1, v.month.2, v.day.1, v.day.2, v.hour, v.minute, v.second⟩
  rw [instant, readZone_zoneText k hp hm v.off]
  simp only [hf, readMain, allDig_of (hY.append (allDig_mdhms dt)), hy, List.drop_left' hl, n1, n2, n3, n4, n5,
    length_mdhms v, hv, not_true_eq_false, and_self, true_or, if_false, if_true, ht]
  rfl

theorem todOf_nil (base unit : Nat) : todOf base unit [] = (base, 0) := by
  simp [todOf, digitsVal, normDec]

theorem length_dec_three {n : Nat} (h1 : 100 ≤ n) (h2 : n < 1000) : (dec n).length = 3 := by
  rw [dec_ge (by omega), dec_ge (by omega), dec_lt (by omega)]; rfl

/-- a unit that is a multiple of `10 ^ f.length`: the fraction comes to whole microseconds -/
theorem todOf_whole (base u : Nat) (f : List Char) :
    todOf base (u * 10 ^ f.length) f = (base + u * digitsVal 0 f, 0) := by
  have e : base * 10 ^ f.length + u * 10 ^ f.length * digitsVal 0 f
      = (base + u * digitsVal 0 f) * 10 ^ f.length := by
    rw [Nat.add_mul, Nat.mul_right_comm]
  have n := normDec_mul (base + u * digitsVal 0 f) 0 f.length
  rw [Nat.zero_add] at n
  rw [todOf, e, n, normDec]

/-- time of day with the milliseconds `fromDateTime` writes, where X.680 reads them as written:
    one digit `0`, or three digits -/
theorem todOf_dec {base ms : Nat} (h : ms = 0 ∨ (100 ≤ ms ∧ ms < 1000)) :
    todOf base 1000000 (dec ms) = (base + ms * 1000, 0) := by
  have key : ∀ u, 1000000 = u * 10 ^ (dec ms).length → todOf base 1000000 (dec ms) = (base + u * ms, 0) := by
    intro u hu; rw [hu, todOf_whole, digitsVal_dec]
  rcases h with h | ⟨h1, h2⟩
  · rw [key 100000 (by rw [h, dec_lt (by decide)]; rfl), h]
  · rw [key 1000 (by rw [length_dec_three h1 h2]), Nat.mul_comm]

/-- PARTIAL at the property level (see Props.C20.from_instant_partial): the text written for a datetime,
    read per X.680, is that datetime's instant with the same offset, provided the milliseconds are 0 or ≥ 100 -/
theorem instant_fromDateTime_gt {dt : DT} (v : ValidDT dt) (hms : dt.micro % 1000 = 0)
    (hg : dt.micro = 0 ∨ 100000 ≤ dt.micro) :
    instant gt (fromDateTime gt dt) = some ({ dt with off := some (dt.off.getD 0) } : DT).instant := by
  have hy : dt.year < 10000 := Nat.lt_succ_of_le v.year.2
  have hl : (pad4 dt.year).length = 4 := by rw [pad4_lt hy]; rfl
  have hmain : AllDig (pad4 dt.year ++ mdhms dt) := (allDig_pad4 _).append (allDig_mdhms dt)
  have hms' : dt.micro / 1000 = 0 ∨ (100 ≤ dt.micro / 1000 ∧ dt.micro / 1000 < 1000) := by
    have := v.micro; omega
  rw [fromDateTime_gt]
  exact instant_parts v (not_mem_body (by decide) (by decide) hmain _) (not_mem_body (by decide) (by decide) hmain _)
    (readFrac_dot rfl hmain (allDig_dec _) (dec_ne_nil _)) (allDig_pad4 _) hl
    (by rw [if_pos (show gt.yearsDigits = 4 from rfl), List.take_left' hl]; exact digitsVal_pad4 hy)
    (by rw [todOf_dec hms', Nat.div_mul_cancel (Nat.dvd_of_mod_eq_zero hms)])

/-- UTCTime: the text written for a datetime (second precision, year in the strptime window), read per
    X.680 §47 with that window, is the datetime's instant with the same offset -/
theorem instant_fromDateTime_utc {dt : DT} (v : ValidDT dt) (hyw : 1969 ≤ dt.year ∧ dt.year ≤ 2068)
    (hus : dt.micro = 0) :
    instant utc (fromDateTime utc dt) = some ({ dt with off := some (dt.off.getD 0) } : DT).instant := by
  have hl : (pad2 (dt.year % 100)).length = 2 := length_pad2 (Nat.mod_lt _ (by decide))
  have hmain : AllDig (pad2 (dt.year % 100) ++ mdhms dt) := (allDig_pad2 _).append (allDig_mdhms dt)
  rw [fromDateTime_utc]
  exact instant_parts v (hmain.not_mem (by decide)) (hmain.not_mem (by decide)) (readFrac_none utc hmain)
    (allDig_pad2 _) hl
    (by rw [if_neg (show ¬ utc.yearsDigits = 4 by decide), num2_pad2 (Nat.mod_lt _ (by decide))]; exact year_window hyw)
    (by rw [todOf_nil, hus, Nat.add_zero])

end Asn1.Time
