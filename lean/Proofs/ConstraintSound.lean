/-
  Proofs.ConstraintSound — the subtype test that gates assignment of value objects is *sound*:
  whatever `isSuperTypeOf self other` lets through admits only values `self` admits — outside the
  recorded finding U1 (a union lists its operands in its value map, so `P` counts as a supertype of
  `P | Q`; a test of pyasn1 relies on it), i.e. for `other` without a union on its value-map path.
-/
import Proofs.ConstraintDerive

namespace Asn1.Constraint

mutual
/-- no ConstraintsUnion among the constraints whose operands `getValueMap()` collects -/
def Constr.noUnionMap : Constr → Bool
  | .mk .union _ => false
  | .mk .intersection ops => opsNoUnionMap ops
  | .mk _ _ => true
def opsNoUnionMap : Ops → Bool
  | .nil => true
  | .con c rest => c.noUnionMap && opsNoUnionMap rest
  | .raw _ rest => opsNoUnionMap rest
  | .field _ _ rest => opsNoUnionMap rest
  | .entry _ _ _ rest => opsNoUnionMap rest
end

/-- a well-formed constraint without operands admits everything (`if not self._values: return`) -/
theorem den_of_not_truthy (c : Constr) (hw : c.wf = true) (ht : c.truthy = false) (i : Option Nat)
    (v : CVal) : den c i v := by
  obtain ⟨k, ops⟩ := c
  cases nil_of_not_truthy ht
  cases k with
  | componentPresent | componentAbsent => cases ht  -- truthy whatever the operands
  | valueRange | valueSize => cases hw  -- not constructible without its two bounds
  | _ => exact Or.inl rfl

/-- the `isInconsistent` gate of the encoders lets through exactly the mappings the (constructible)
    subtypeSpec admits: a falsy subtypeSpec is not asked, and admits everything -/
theorem encodeGate_sound (spec : Constr) (mapping : CVal) (hw : spec.wf = true) :
    Decides (encodeGate spec mapping) (den spec none mapping) := by
  unfold encodeGate
  cases ht : spec.truthy with
  | true => exact run_sound spec none mapping
  | false => exact Decides.accept.of_iff (iff_of_true trivial (den_of_not_truthy spec hw ht none mapping))

mutual
/-- an operand collected into the value map of a union-free constraint is implied by it -/
theorem den_of_mem_valueMap (self : Constr) (i : Option Nat) (v : CVal) :
    (other : Constr) → other.noUnionMap = true → self ∈ valueMap other → den other i v → den self i v
  | .mk k ops, hu, hm, hd => by
    obtain ⟨rfl | rfl, hm⟩ := mem_valueMap_mk hm
    · exact den_of_mem_collect self i v ops [] hu hm (den_intersection.mp hd)
    · cases hu
theorem den_of_mem_collect (self : Constr) (i : Option Nat) (v : CVal) :
    (ops : Ops) → (s : List Atom) → opsNoUnionMap ops = true → self ∈ collect ops →
    denAll ops s i v → den self i v
  | .nil => fun _ _ hm _ => nomatch hm
  | .con c rest => fun s hu hm hd => by
    obtain ⟨huc, hu⟩ := Bool.and_eq_true_iff.mp hu
    rcases mem_collect_con.mp hm with ⟨-, rfl | hm⟩ | hm
    · exact hd.1
    · exact den_of_mem_valueMap self i v c huc hm hd.1
    · exact den_of_mem_collect self i v rest s hu hm hd.2
  | .raw _ rest => fun s hu hm hd => den_of_mem_collect self i v rest s hu hm hd.2
  | .field _ _ _ | .entry _ _ _ _ => fun _ _ _ hd => hd.elim
end

mutual
/-- what imposes a constraint implies it (unions are not entered, so no side condition) -/
theorem den_of_imposedBy (c : Constr) (i : Option Nat) (v : CVal) :
    (other : Constr) → imposedBy c other = true → den other i v → den c i v
  | .mk k ops, h, hd => by
    rcases imposedBy_mk.mp h with rfl | ⟨rfl, ho⟩
    · exact hd
    · exact den_of_imposedByOps c i v ops [] ho (den_intersection.mp hd)
theorem den_of_imposedByOps (c : Constr) (i : Option Nat) (v : CVal) :
    (ops : Ops) → (s : List Atom) → imposedByOps c ops = true → denAll ops s i v → den c i v
  | .nil => fun _ h _ => nomatch h
  | .con d rest => fun s h hd =>
    (imposedByOps_con.mp h).elim (den_of_imposedBy c i v d · hd.1)
      (den_of_imposedByOps c i v rest s · hd.2)
  | .raw _ rest => fun s h hd => den_of_imposedByOps c i v rest s h hd.2
  | .field _ _ _ | .entry _ _ _ _ => fun _ _ hd => hd.elim
end

theorem denAll_of_imposedAll (other : Constr) (i : Option Nat) (v : CVal) (hd : den other i v) :
    (ops : Ops) → wfOps Cls.intersection.shape ops = true → imposedAll ops other = true →
    denAll ops [] i v
  | .nil => fun _ _ => trivial
  | .con c rest => fun hw h => by
    obtain ⟨hc, h⟩ := imposedAll_con.mp h
    obtain ⟨⟨-, hwc⟩, hw⟩ := wfOps_con.mp hw
    exact ⟨hc.elim (den_of_not_truthy c hwc · i v) (den_of_imposedBy c i v other · hd),
      denAll_of_imposedAll other i v hd rest hw h⟩
  | .raw _ _ | .field _ _ _ | .entry _ _ _ _ => fun _ h => Bool.noConfusion h

theorem den_of_base (self other : Constr) (hw : self.wf = true) (hu : other.noUnionMap = true)
    (h : baseIsSuperTypeOf self other = true) (i : Option Nat) (v : CVal) (hd : den other i v) :
    den self i v := by
  rcases baseIsSuperTypeOf_iff.mp h with ht | rfl | hm
  · exact den_of_not_truthy self hw ht i v
  · exact hd
  · exact den_of_mem_valueMap self i v other hu hm hd

theorem supertype_sound (self other : Constr) (hw : self.wf = true) (hu : other.noUnionMap = true)
    (h : isSuperTypeOf self other = true) (i : Option Nat) (v : CVal) (hd : den other i v) :
    den self i v := by
  cases self using Constr.cases_intersection with
  | inter ops =>
    rcases isSuperTypeOf_intersection.mp h with h | h
    · exact den_of_base _ _ hw hu h i v hd
    · exact den_intersection.mpr (denAll_of_imposedAll other i v hd ops (wfOps_of_wf hw) h)
  | other k ops hk =>
    rw [isSuperTypeOf_of_ne hk] at h
    exact den_of_base _ _ hw hu h i v hd

end Asn1.Constraint
