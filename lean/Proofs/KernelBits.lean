/-
  Proofs.KernelBits — BIT STRING contents in the primitive form, as the source reads them: `BitString.fromOctetString`
  (type/univ.py, translated into `GenK.bitsFromOctets`) and the primitive branch of `BitStringPayloadDecoder.valueDecoder`
  (codec/ber/decoder.py, translated into `GenK.bitsDecode`) compute the model's `bitsFromContent`: the same refusals, and
  the integer and bit length the value object keeps are those of exactly the model's bit list. Then the NULL decoder
  (`GenK.nullDecode`) and the BER BOOLEAN (`GenK.berBoolDec` on top of the translated INTEGER decoder).
-/
import Proofs.KernelLen
import Proofs.PrimRT

namespace Asn1.Kernels
open Py

/-- the octets read as one big-endian number are the bits read as one number -/
theorem natOfBE_bits : ∀ (bs : Bytes) (a : Nat),
    Py.natOfBE (bytesInts bs) (a : Int) = ((a * 2 ^ (8 * bs.length) + bitsToNat (unpackBits bs) : Nat) : Int)
  | [], a => by simp [Py.natOfBE, bytesInts, unpackBits, bitsToNat]
  | b :: rest, a => by
    rw [bytesInts_cons, Py.natOfBE]
    rw [show (a : Int) * 256 + (b.toNat : Int) = ((a * 256 + b.toNat : Nat) : Int) from rfl, natOfBE_bits rest,
      unpackBits_cons, bitsToNat_append, bitsToNat_byte, unpackBits_length,
      show 8 * (b :: rest).length = 8 * rest.length + 8 from rfl, Nat.pow_add, Nat.add_mul]
    simp only [show (2 : Nat) ^ 8 = 256 from rfl, Nat.mul_assoc, Nat.mul_comm 256, Nat.add_assoc]

theorem fromBytes_unsigned (bs : Bytes) : Py.fromBytes (bytesInts bs) false = ((bitsToNat (unpackBits bs) : Nat) : Int) := by
  have h := natOfBE_bits bs 0
  simp only [Nat.zero_mul, Nat.zero_add] at h
  cases bs with
  | nil => rfl
  | cons b rest =>
    simp only [Py.fromBytes, bytesInts_cons, Bool.false_and, Bool.false_eq_true, if_false]
    exact h

theorem bitsToNat_take (all : List Bool) (p : Nat) (hp : p ≤ all.length) :
    bitsToNat (all.take (all.length - p)) = bitsToNat all >>> p := by
  have hsplit : all = all.take (all.length - p) ++ all.drop (all.length - p) := (List.take_append_drop _ _).symm
  have hdl : (all.drop (all.length - p)).length = p := by simp; omega
  have hlt := bitsToNat_lt (all.drop (all.length - p))
  rw [hdl] at hlt
  have h := bitsToNat_append (all.take (all.length - p)) (all.drop (all.length - p))
  rw [← hsplit, hdl] at h
  rw [h, Nat.shiftRight_eq_div_pow]
  have hpos : 0 < 2 ^ p := Nat.pow_pos (by decide)
  rw [Nat.add_comm, Nat.add_mul_div_right _ _ hpos, Nat.div_eq_of_lt hlt, Nat.zero_add]

/-- **fromOctetString as it is in the source**: refused when more bits are said to be unused than there are; otherwise the
    octets as a number shifted right by the unused bits, of `8 * |octets| - p` bits - the number and the length of the bit
    list `unpackBits octets` without its last `p` bits -/
theorem bitsFromOctets_kernel (bs : Bytes) (p : Nat) :
    GenK.bitsFromOctets (bytesInts bs) (p : Int) =
      if p > 8 * bs.length then .error (.lib "PyAsn1Error")
      else .ok (((bitsToNat ((unpackBits bs).take (8 * bs.length - p)) : Nat) : Int), ((8 * bs.length - p : Nat) : Int)) := by
  unfold GenK.bitsFromOctets GenK.fromBytes
  rw [len_bytes]
  by_cases h : p > 8 * bs.length
  · have : ((p : Nat) : Int) > ((bs.length : Nat) : Int) * 8 := by omega
    simp [h, this, throw_eq]
  · have : ¬ (((p : Nat) : Int) > ((bs.length : Nat) : Int) * 8) := by omega
    simp only [h, this, decide_false, Bool.false_eq_true, if_false, bind, Except.bind, pure, Except.pure, fromBytes_unsigned,
      shr_nat]
    have ht := bitsToNat_take (unpackBits bs) p (by rw [unpackBits_length]; omega)
    rw [unpackBits_length] at ht
    rw [ht]
    congr 2
    omega

/-- the model's answer as the kernel reports it: the value as (integer, length in bits) -/
def liftBits : Res (List Bool) → Py.M (Int × Int)
  | .ok bs => .ok (((bitsToNat bs : Nat) : Int), ((bs.length : Nat) : Int))
  | .error _ => .error (.lib "PyAsn1Error")

theorem readN_all_from (bs : Bytes) (i : Nat) (hi : i ≤ bs.length) :
    Py.readN (bytesInts bs) (i : Int) (((bs.length : Nat) : Int) - (i : Int)) = .ok (bytesInts (bs.drop i)) := by
  rw [← Int.ofNat_sub hi, readN_bytes, if_pos (by omega),
    List.take_of_length_le (by rw [List.length_drop]; exact Nat.le_refl _)]

/-- **the primitive BIT STRING branch as it is in the source is the model's `bitsFromContent`**: no contents octets -
    refused; more than 7 unused bits - refused; unused bits without any octet to hold them - refused (by fromOctetString);
    otherwise the bit list of the octets without the unused bits, as the integer and the length the value object keeps -/
theorem bitsDecode_kernel (c : Bytes) :
    GenK.bitsDecode (bytesInts c) ((c.length : Nat) : Int) = liftBits (bitsFromContent c) := by
  unfold GenK.bitsDecode
  cases c with
  | nil => simp [Py.truthy, bitsFromContent, liftBits, throw_eq]
  | cons p rest =>
    have hlen : Py.truthy (((p :: rest).length : Nat) : Int) = true := by
      simp [Py.truthy]; omega
    have h0 : Py.readN (bytesInts (p :: rest)) 0 1 = .ok [(p.toNat : Int)] := rfl
    simp only [hlen, Bool.not_true, Bool.false_eq_true, if_false, h0, bind, Except.bind, Py.ord, pure, Except.pure]
    have hp := UInt8.toNat_lt p
    by_cases h7 : p.toNat > 7
    · have : ((p.toNat : Nat) : Int) > 7 := by omega
      simp [this, h7, bitsFromContent, liftBits, throw_eq]
    · have : ¬ (((p.toNat : Nat) : Int) > 7) := by omega
      simp only [this, decide_false, Bool.false_eq_true, if_false]
      have hr : Py.readN (bytesInts (p :: rest)) ((0 : Int) + 1) ((((p :: rest).length : Nat) : Int) - 1) = .ok (bytesInts rest) := by
        simpa using readN_all_from (p :: rest) 1 (by simp)
      rw [hr]
      simp only [bitsFromOctets_kernel, bitsFromContent, h7, if_false, unpackBits_length]
      by_cases hover : p.toNat > 8 * rest.length
      · simp [hover, liftBits]
      · simp only [hover, if_false, liftBits]
        congr 2
        simp [List.length_take, unpackBits_length]

/-- **the NULL decoder as it is in the source**: a constructed identifier is refused, contents octets are refused
    ("Unexpected n-octet substrate for Null"), and an empty contents is accepted having consumed nothing - on the complete
    contents `c` (the declared length is what is there) -/
theorem nullDecode_kernel (notSimple : Bool) (c : Bytes) :
    GenK.nullDecode notSimple (bytesInts c) ((c.length : Nat) : Int) =
      if notSimple then .error (.lib "PyAsn1Error") else if c.isEmpty then .ok 0 else .error (.lib "PyAsn1Error") := by
  unfold GenK.nullDecode
  cases notSimple with
  | true => simp [throw_eq]
  | false =>
    have hr : Py.readN (bytesInts c) (0 : Int) ((c.length : Nat) : Int) = .ok (bytesInts c) := by
      simpa using readN_all_from c 0 (Nat.zero_le _)
    simp only [Bool.false_eq_true, if_false, hr, bind, Except.bind]
    cases c with
    | nil => simp [bytesInts, pure, Except.pure]
    | cons b rest => simp [bytesInts, throw_eq]

/-- **the BER BOOLEAN decoder as it is in the source**: the contents octets read as a two's complement integer (the
    translated INTEGER decoder), then `value and 1 or 0` (the translated `_createComponent`): 1 exactly when that integer is
    not zero - the model's lenient `intFromBytes c != 0`, for every contents string (empty, one octet, many) -/
theorem berBoolDec_kernel (c : Bytes) :
    (GenK.intDecode (bytesInts c) >>= GenK.berBoolDec) = .ok (if intFromBytes c != 0 then 1 else 0) := by
  rw [intDecode_kernel]
  show GenK.berBoolDec (intFromBytes c) = _
  unfold GenK.berBoolDec Py.truthy
  by_cases h : intFromBytes c = 0 <;> simp [h, pure, Except.pure]

end Asn1.Kernels
