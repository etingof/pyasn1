/-
  Proofs.X690Sort — the ordering rules of the X.690 transcription (an insertion sort over comparison
  relations on encodings) give the same lists as the encoder model's merge sorts over sort keys.
-/
import Asn1.X690
import Asn1.Encoder
import Proofs.ContainerSort

namespace Asn1

open X690

theorem insertBy_split {α} (le : α → α → Bool) (a : α) : ∀ (l₁ l₂ : List α),
    (∀ b, b ∈ l₁ → (!le a b) = true) → (∀ b, b ∈ l₂ → le a b = true) →
    insertBy le a (l₁ ++ l₂) = l₁ ++ a :: l₂
  | [], [], _, _ => rfl
  | [], y :: ys, _, h2 => by
    have := h2 y (by simp)
    simp [insertBy, this]
  | x :: xs, l₂, h1, h2 => by
    have hx := h1 x (by simp)
    simp only [Bool.not_eq_true'] at hx
    simp only [List.cons_append, insertBy, hx, Bool.false_eq_true, if_false]
    rw [insertBy_split le a xs l₂ (fun b hb => h1 b (by simp [hb])) h2]

theorem sortBy_eq_mergeSort {α} (le : α → α → Bool)
    (trans : ∀ a b c : α, le a b = true → le b c = true → le a c = true)
    (total : ∀ a b : α, (le a b || le b a) = true) :
    ∀ l : List α, sortBy le l = l.mergeSort le
  | [] => by simp [sortBy]
  | a :: l => by
    have ih := sortBy_eq_mergeSort le trans total l
    obtain ⟨l₁, l₂, h1, h2, h3⟩ := List.mergeSort_cons (le := le) trans total a l
    have hs := List.pairwise_mergeSort (le := le) trans total (a :: l)
    rw [h1] at hs
    have hge : ∀ b, b ∈ l₂ → le a b = true := fun b hb =>
      List.rel_of_pairwise_cons (List.pairwise_append.mp hs).2.1 hb
    show insertBy le a (sortBy le l) = _
    rw [ih, h2, h1]
    exact insertBy_split le a l₁ l₂ h3 hge

theorem bytesLe_zeros : ∀ (m : Nat) (x : Bytes), x.length = m → bytesLe (List.replicate m 0) x = true
  | 0, _, _ => by simp [bytesLe]
  | m + 1, [], h => by simp at h
  | m + 1, y :: ys, h => by
    rw [List.replicate_succ, bytesLe_cons]
    have ih := bytesLe_zeros m ys (by simpa using h)
    by_cases hy : y = 0
    · subst hy; simp [ih]
    · have : (0 : UInt8) < y :=
        UInt8.lt_iff_toNat_lt.mpr (Nat.pos_of_ne_zero fun h => hy (UInt8.toNat_inj.mp h))
      simp [this]

theorem padTo_length (m : Nat) (b : Bytes) (h : b.length ≤ m) : (padTo m b).length = m := by
  simp [padTo]; omega

theorem paddedLe_eq : ∀ (a b : Bytes) (m : Nat), a.length ≤ m → b.length ≤ m →
    paddedLe a b = bytesLe (padTo m a) (padTo m b)
  | [], b, m, _, hb => by
    rw [paddedLe, padTo_nil, bytesLe_zeros m _ (padTo_length m b hb)]
  | _ :: _, _, 0, ha, _ => absurd ha (Nat.not_succ_le_zero _)
  | a :: as, [], m + 1, ha, _ => by
    rw [paddedLe, padTo_cons, padTo_nil, List.replicate_succ, ← padTo_nil, bytesLe_cons,
      paddedLe_eq as [] m (Nat.le_of_succ_le_succ ha) (Nat.zero_le _)]
    have : ¬ a < 0 := by simp [UInt8.lt_iff_toNat_lt]
    simp [this]
  | a :: as, b :: bs, m + 1, ha, hb => by
    rw [paddedLe, padTo_cons, padTo_cons, bytesLe_cons,
      paddedLe_eq as bs m (Nat.le_of_succ_le_succ ha) (Nat.le_of_succ_le_succ hb)]

theorem paddedLe_total (a b : Bytes) : (paddedLe a b || paddedLe b a) = true := by
  rw [paddedLe_eq a b (a.length + b.length) (by omega) (by omega),
    paddedLe_eq b a (a.length + b.length) (by omega) (by omega)]
  exact padLe_total _ a b

theorem paddedLe_trans (a b c : Bytes) (h1 : paddedLe a b = true) (h2 : paddedLe b c = true) :
    paddedLe a c = true := by
  rw [paddedLe_eq a b (a.length + b.length + c.length) (by omega) (by omega)] at h1
  rw [paddedLe_eq b c (a.length + b.length + c.length) (by omega) (by omega)] at h2
  rw [paddedLe_eq a c (a.length + b.length + c.length) (by omega) (by omega)]
  exact padLe_trans _ a b c h1 h2

theorem le_foldl_max : ∀ (l : List Bytes) (acc : Nat),
    acc ≤ l.foldl (fun a c => max a c.length) acc ∧
    ∀ c ∈ l, c.length ≤ l.foldl (fun a c => max a c.length) acc
  | [], acc => ⟨Nat.le_refl _, fun c hc => by simp at hc⟩
  | x :: xs, acc => by
    obtain ⟨h1, h2⟩ := le_foldl_max xs (max acc x.length)
    simp only [List.foldl_cons]
    refine ⟨by omega, ?_⟩
    intro c hc
    rcases List.mem_cons.mp hc with rfl | hc
    · omega
    · exact h2 c hc

/-- **SET OF order**: the encoder's sort on zero-padded keys is X.690's order on the encodings -/
theorem sortSetOf_eq (cs : List Bytes) : sortBy paddedLe cs = sortSetOfChunks cs := by
  rw [sortSetOfChunks_eq, sortBy_eq_mergeSort paddedLe paddedLe_trans paddedLe_total]
  -- with `f := id`, `List.map_mergeSort` says that two relations which agree on the members sort alike
  have := List.map_mergeSort (f := id) (l := cs) (r := paddedLe)
    (s := padLe (cs.foldl (fun a c => max a c.length) 0))
    fun a ha b hb => paddedLe_eq a b _ ((le_foldl_max cs 0).2 a ha) ((le_foldl_max cs 0).2 b hb)
  rwa [List.map_id, List.map_id] at this

theorem tagRank_eq (c : TagClass) (n : Nat) : tagRank c n = (clsRank c, n) := by
  cases c <;> rfl

theorem tagSetLe_single (a b : Tag) :
    tagSetLe [a] [b] = rankLe (tagRank a.cls a.num) (tagRank b.cls b.num) := by
  rw [tagRank_eq, tagRank_eq]
  -- both compare class first, then number; the encoder's key holds the class as `64 * clsRank`, and the
  -- factor cancels in `<`
  simp only [tagSetLe, tagKey, rankLe, TagClass.bits_rank, Nat.mul_lt_mul_left (show 0 < 64 by decide)]
  generalize clsRank a.cls = ra
  generalize clsRank b.cls = rb
  rcases Nat.lt_trichotomy ra rb with h | rfl | h
  · simp [h]
  · rcases Nat.lt_trichotomy a.num b.num with h | h | h
    · simp [h, Nat.le_of_lt h]
    · simp [h]
    · simp [h, Nat.lt_asymm h, Nat.not_le_of_lt h]
  · simp [h, Nat.lt_asymm h, Nat.ne_of_gt h]

theorem rankLe_total (a b : Nat × Nat) : (rankLe a b || rankLe b a) = true := by
  simp only [rankLe, Bool.or_eq_true, decide_eq_true_eq, Bool.and_eq_true, beq_iff_eq]
  omega

theorem rankLe_trans (a b c : Nat × Nat) (h1 : rankLe a b = true) (h2 : rankLe b c = true) :
    rankLe a c = true := by
  simp only [rankLe, Bool.or_eq_true, decide_eq_true_eq, Bool.and_eq_true, beq_iff_eq] at *
  omega

end Asn1
