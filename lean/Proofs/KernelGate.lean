/-
  Proofs.KernelGate — the decoders' completeness gate for SEQUENCE / SET values decoded under a type,
  `if not namedTypes.requiredComponents.issubset(seenIndices): raise PyAsn1Error(...)` in
  `ConstructedPayloadDecoderBase.valueDecoder` and `indefLenValueDecoder` (translated into `GenK.requiredSeen` /
  `requiredSeenIndef`, the mandatory positions a parameter), lets through exactly the sets of seen positions that hold
  every mandatory one. Also the index normalisation of SEQUENCE OF / SET OF objects (type/univ.py; `GenK.seqOfGetIdx`,
  `seqOfSetIdx`) and the octets an ANY field captures (`GenK.anyCapture`).
-/
import Proofs.KernelBase
import Asn1.Container

namespace Asn1.Kernels
open Py
open Asn1.Container

/-- positions as the translated code sees them -/
def natInts (l : List Nat) : Py.Tup := l.map (fun (n : Nat) => ((n : Nat) : Int))

theorem natInts_eq_ints (l : List Nat) : natInts l = ints l := rfl

theorem issuperset_nat (seen req : List Nat) :
    Py.issuperset (natInts seen) (natInts req) = req.all (fun i => seen.contains i) := by
  unfold Py.issuperset
  induction req with
  | nil => simp [natInts]
  | cons a rest ih =>
    have hc : natInts (a :: rest) = (a : Int) :: natInts rest := rfl
    rw [hc, List.all_cons, List.all_cons, ih, natInts_eq_ints seen, ints_contains]

/-- **the completeness gate as it is in the source** (definite-length decoder) -/
theorem requiredSeen_kernel (req seen : List Nat) :
    GenK.requiredSeen (natInts req) (natInts seen) =
      if req.all (fun i => seen.contains i) then .ok 0 else .error (.lib "PyAsn1Error") := by
  unfold GenK.requiredSeen
  rw [issuperset_nat]
  cases req.all (fun i => seen.contains i) <;> rfl

/-- the same statement of the indefinite-length decoder -/
theorem requiredSeenIndef_kernel (req seen : List Nat) :
    GenK.requiredSeenIndef (natInts req) (natInts seen) =
      if req.all (fun i => seen.contains i) then .ok 0 else .error (.lib "PyAsn1Error") :=
  requiredSeen_kernel req seen

/-- the model's answer as the translated statement reports it -/
def liftIdx : Option Nat → Py.M Int
  | some k => .ok (k : Int)
  | none => .error (.lib "PyAsn1Error")

/-- **`if idx < 0: idx = len(self) + idx; if idx < 0: raise` as it stands in `getComponentByPosition`** is the model's
    `SeqOf.normIdx`: a non-negative index as it is, a negative one counted from the end, PyAsn1Error before the front -/
theorem seqOfGetIdx_kernel (st : SeqOfSt) (i : Int) :
    GenK.seqOfGetIdx (SeqOf.len st : Int) i = liftIdx (SeqOf.normIdx st i) := by
  unfold GenK.seqOfGetIdx SeqOf.normIdx
  by_cases h0 : 0 ≤ i
  · have : ¬ (i < 0) := by omega
    simp only [this, decide_false, Bool.false_eq_true, if_false, h0, if_true, liftIdx, pure, Except.pure]
    congr 1; omega
  · have h1 : i < 0 := by omega
    simp only [h1, decide_true, if_true, h0, if_false]
    by_cases h2 : 0 ≤ (SeqOf.len st : Int) + i
    · have : ¬ ((SeqOf.len st : Int) + i < 0) := by omega
      simp only [this, decide_false, Bool.false_eq_true, if_false, h2, if_true, liftIdx, pure, Except.pure]
      congr 1; omega
    · have : (SeqOf.len st : Int) + i < 0 := by omega
      simp [this, h2, liftIdx, throw_eq]

/-- the same statement as it stands in `setComponentByPosition` -/
theorem seqOfSetIdx_kernel (st : SeqOfSt) (i : Int) :
    GenK.seqOfSetIdx (SeqOf.len st : Int) i = liftIdx (SeqOf.normIdx st i) :=
  seqOfGetIdx_kernel st i

theorem readN_mid (a b c : Bytes) :
    Py.readN (bytesInts (a ++ b ++ c)) ((a.length : Nat) : Int) ((b.length : Nat) : Int) = .ok (bytesInts b) := by
  rw [readN_bytes, if_pos (by simp only [List.length_append]; omega), List.append_assoc, List.drop_left, List.take_left]

/-- **an untagged ANY captures the whole element, header included** (the translated `AnyPayloadDecoder.valueDecoder`, the
    substrate being the complete input): with the mark at the element's first octet, the stream after its header and the
    declared length that of its contents, the value is header ++ contents exactly - nothing before, nothing after - and the
    stream ends up right behind the element -/
theorem anyCapture_untagged (pre hdr content rest : Bytes) :
    GenK.anyCapture ((pre.length : Nat) : Int) (bytesInts (pre ++ (hdr ++ content) ++ rest))
        (((pre.length + hdr.length : Nat)) : Int) true ((content.length : Nat) : Int) =
      .ok (bytesInts (hdr ++ content), ((pre.length + hdr.length + content.length : Nat) : Int)) := by
  unfold GenK.anyCapture
  simp only [if_true, bind, Except.bind, pure, Except.pure]
  have e : ((content.length : Nat) : Int) + ((((pre.length + hdr.length : Nat)) : Int) - ((pre.length : Nat) : Int)) =
      (((hdr ++ content).length : Nat) : Int) := by simp [List.length_append]; omega
  rw [e, readN_mid pre (hdr ++ content) rest]
  simp only [List.length_append]
  congr 2
  omega

/-- a tagged ANY (its own tag matched the header): the contents only -/
theorem anyCapture_tagged (pre hdr content rest : Bytes) (mark : Int) :
    GenK.anyCapture mark (bytesInts ((pre ++ hdr) ++ content ++ rest))
        (((pre.length + hdr.length : Nat)) : Int) false ((content.length : Nat) : Int) =
      .ok (bytesInts content, ((pre.length + hdr.length + content.length : Nat) : Int)) := by
  unfold GenK.anyCapture
  simp only [Bool.false_eq_true, if_false, bind, Except.bind, pure, Except.pure]
  have e : (((pre.length + hdr.length : Nat)) : Int) = (((pre ++ hdr).length : Nat) : Int) := by simp [List.length_append]
  rw [e, readN_mid (pre ++ hdr) content rest]
  simp only [List.length_append, Int.natCast_add]

end Asn1.Kernels
