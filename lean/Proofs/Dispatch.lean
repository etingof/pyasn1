/-
  Proofs.Dispatch — the decoder's dispatch on tags finds the right component.
  `Members` describes the children an encoder produced for a record (one element per component
  that was not skipped, in declaration order); under the tag-distinctness rules of `Ty.WF` an
  element whose tag is a member's own is not taken by an earlier member (the window of a
  SEQUENCE), and lookup by tag (SET members, CHOICE alternatives) finds that member.
-/
import Asn1.Decoder
import Asn1.Typing
import Asn1.Encoder
import Proofs.DecInduct
import Proofs.Typing

namespace Asn1

/-- `tg` is one of the tags an encoding of `t` may start with -/
def TagIn (t : Ty) (tg : Tag) : Prop := ∃ l, t.outerTags = some l ∧ l.any (·.same tg) = true

theorem accepts_of_tagIn {t : Ty} {tg : Tag} (h : TagIn t tg) : t.accepts tg = true := by
  obtain ⟨l, hl, ha⟩ := h
  simp only [Ty.accepts, hl]
  exact ha

theorem Tag.same_of (a b c : Tag) (h1 : a.same c = true) (h2 : b.same c = true) : a.same b = true := by
  simp only [Tag.same, Bool.and_eq_true, beq_iff_eq] at *
  exact ⟨h1.1.trans h2.1.symm, h1.2.trans h2.2.symm⟩

theorem not_accepts_of_disjoint {t' t : Ty} {tg : Tag}
    (hd : outerOverlap t'.outerTags t.outerTags = false) (h : TagIn t tg) : t'.accepts tg = false := by
  obtain ⟨l, hl, ha⟩ := h
  rw [hl] at hd
  cases ho : t'.outerTags with
  | none => rw [ho] at hd; simp [outerOverlap] at hd
  | some a =>
    rw [ho] at hd
    simp only [Ty.accepts, ho]
    simp only [outerOverlap, tagsOverlap] at hd
    cases hx : a.any (·.same tg) with
    | false => rfl
    | true =>
      exfalso
      obtain ⟨x, hxa, hxs⟩ := List.any_eq_true.mp hx
      obtain ⟨y, hyl, hys⟩ := List.any_eq_true.mp ha
      have : (a.any fun x => l.any fun y => x.same y) = true :=
        List.any_eq_true.mpr ⟨x, hxa, List.any_eq_true.mpr ⟨y, hyl, Tag.same_of x y tg hxs hys⟩⟩
      rw [this] at hd
      exact absurd hd (by simp)

/- Induction along the recursion of `Val.beq` itself: an equation for each constructor met twice, and
   a last one, when none of those applies, which says `false` (likewise for lists). -/
theorem Val.beq_sound_both :
    (∀ a b, Val.beq a b = true → a = b) ∧ (∀ a b, Val.beqList a b = true → a = b) := by
  apply Val.beq.mutual_induct (motive_1 := fun a b => Val.beq a b = true → a = b)
    (motive_2 := fun a b => Val.beqList a b = true → a = b)
  case case1 | case2 | case3 | case4 | case6 | case7 | case11 =>
    intro a b h; rw [Val.beq] at h; exact congrArg _ (eq_of_beq h)
  case case5 | case12 | case14 => intro _; rfl
  case case8 | case9 => intro a b ih h; rw [Val.beq] at h; exact congrArg _ (ih h)
  case case10 =>
    intro i a j b ih h
    rw [Val.beq, Bool.and_eq_true] at h
    rw [eq_of_beq h.1, ih h.2]
  case case13 =>
    intro a b h1 h2 h3 h4 h5 h6 h7 h8 h9 h10 h11 h12 h
    rw [Val.beq.eq_13 a b h1 h2 h3 h4 h5 h6 h7 h8 h9 h10 h11 h12] at h; cases h
  case case15 =>
    intro a as b bs ih1 ih2 h
    rw [Val.beqList, Bool.and_eq_true] at h
    rw [ih1 h.1, ih2 h.2]
  case case16 => intro a b h1 h2 h; rw [Val.beqList.eq_3 a b h1 h2] at h; cases h

theorem Val.beq_sound : ∀ (a b : Val), Val.beq a b = true → a = b := Val.beq_sound_both.1
theorem Val.beqList_sound : ∀ (a b : List Val), Val.beqList a b = true → a = b := Val.beq_sound_both.2

theorem Val.eq_of_beq (a b : Val) (h : (a == b) = true) : a = b := Val.beq_sound a b h

/-- one child per component that was not skipped, in declaration order; `P k t v c` relates the
    `k`-th component (type `t`, value `v`) to its child `c` -/
def Members (P : Nat → Ty → Val → TLV → Prop) : Nat → Fields → List Val → List TLV → Prop
  | _, .nil, [], cs => cs = []
  | k, .cons kd t rest, v :: vs, cs =>
    if skipField kd v then Members P (k + 1) rest vs cs
    else ∃ c cs', cs = c :: cs' ∧ P k t v c ∧ Members P (k + 1) rest vs cs'
  | _, _, _, _ => False

theorem members_skipped {P : Nat → Ty → Val → TLV → Prop} {k : Nat} {kd : FKind} {t : Ty} {rest : Fields}
    {v : Val} {vs : List Val} {cs : List TLV} (hs : skipField kd v = true) :
    Members P k (.cons kd t rest) (v :: vs) cs ↔ Members P (k + 1) rest vs cs := by
  rw [Members, if_pos hs]

theorem members_present {P : Nat → Ty → Val → TLV → Prop} {k : Nat} {kd : FKind} {t : Ty} {rest : Fields}
    {v : Val} {vs : List Val} {cs : List TLV} (hs : skipField kd v = false) :
    Members P k (.cons kd t rest) (v :: vs) cs ↔
      ∃ c cs', cs = c :: cs' ∧ P k t v c ∧ Members P (k + 1) rest vs cs' := by
  rw [Members, if_neg (by rw [hs]; nofun)]

theorem skipField_req_eq (v : Val) : skipField .req v = false := by cases v <;> rfl

theorem skipField_opt {v : Val} : skipField .opt v = true ↔ v = .absent := by
  constructor
  · intro h; cases v <;> first | rfl | cases h
  · rintro rfl; rfl

theorem hasFields_present {kd : FKind} {t : Ty} {rest : Fields} {v : Val} {vs : List Val}
    (h : HasFields (.cons kd t rest) (v :: vs) = true) (hs : skipField kd v = false) :
    HasType t v = true ∧ HasFields rest vs = true := by
  obtain ⟨h1, h2⟩ := hasFields_cons_iff.mp h
  rcases h1 with ⟨rfl, rfl⟩ | h1
  · cases hs
  · exact ⟨h1, h2⟩

theorem hasFields_skipped {kd : FKind} {t : Ty} {rest : Fields} {v : Val} {vs : List Val}
    (h : HasFields (.cons kd t rest) (v :: vs) = true) (hs : skipField kd v = true) :
    HasFields rest vs = true ∧ ((kd = .opt ∧ v = .absent) ∨ kd = .dflt v) := by
  refine ⟨(hasFields_cons_iff.mp h).2, ?_⟩
  cases kd with
  | req => cases hs
  | opt => exact .inl ⟨rfl, skipField_opt.mp hs⟩
  | dflt d => exact .inr (by rw [Val.eq_of_beq v d hs])

/-- tags of the members up to and including the next mandatory one -/
def InWindow : Fields → Tag → Prop
  | .nil, _ => False
  | .cons k t rest, tg => TagIn t tg ∨ (k ≠ .req ∧ InWindow rest tg)

theorem windowFree_spec (t' : Ty) : ∀ (rest : Fields) (tg : Tag),
    windowFree t'.outerTags rest = true → InWindow rest tg → t'.accepts tg = false
  | .nil => fun _ _ hi => hi.elim
  | .cons k t rest => fun tg hw hi => by
      obtain ⟨hd, hr⟩ := windowFree_cons hw
      rcases hi with hi | ⟨hk, hi⟩
      · exact not_accepts_of_disjoint hd hi
      · exact windowFree_spec t' rest tg (hr hk) hi

abbrev ElemOk (dcfg : DecCfg) : Nat → Ty → Val → TLV → Prop :=
  fun _ t v c => TagIn t c.tag ∧ decTy dcfg t c = .ok v

theorem noneOverlap_get (tags : Option (List Tag)) : ∀ (rest : Fields) (k : Nat) (kd : FKind) (t : Ty),
    noneOverlap tags rest = true → rest.get? k = some (kd, t) → outerOverlap tags t.outerTags = false
  | .nil, _ => fun _ _ _ hg => by simp [Fields.get?] at hg
  | .cons kd' t' rest, 0 => fun kd t hn hg => by
      simp only [Fields.get?, Option.some.injEq, Prod.mk.injEq] at hg
      simp only [noneOverlap, Bool.and_eq_true, Bool.not_eq_true'] at hn
      rw [← hg.2]; exact hn.1
  | .cons kd' t' rest, k + 1 => fun kd t hn hg => by
      simp only [Fields.get?] at hg
      simp only [noneOverlap, Bool.and_eq_true] at hn
      exact noneOverlap_get tags rest k kd t hn.2 hg

theorem member_dispatch (dcfg : DecCfg) (c : TLV) : ∀ (fs : Fields) (k j : Nat) (kd : FKind) (t : Ty),
    allDistinct fs = true → fs.get? k = some (kd, t) → TagIn t c.tag →
    decMember dcfg fs j c = (decTy dcfg t c).map (j + k, ·)
  | .nil, _ => fun _ _ _ _ hg _ => nomatch hg
  | .cons kd' t' rest, 0 => fun j kd t _ hg ht => by
      cases hg
      rw [decMember, if_pos (accepts_of_tagIn ht)]; rfl
  | .cons kd' t' rest, k + 1 => fun j kd t ha hg ht => by
      simp only [allDistinct, Bool.and_eq_true] at ha
      rw [decMember, if_neg (by rw [not_accepts_of_disjoint (noneOverlap_get _ rest k kd t ha.1 hg) ht]; nofun),
        member_dispatch dcfg c rest k (j + 1) kd t ha.2 hg ht, Nat.add_right_comm, Nat.add_assoc]

/-- the first CHOICE alternative accepting the tag is the one that was encoded -/
theorem alt_dispatch (dcfg : DecCfg) (c : TLV) (fs : Fields) (k j : Nat) (kd : FKind) (t : Ty)
    (ha : allDistinct fs = true) (hg : fs.get? k = some (kd, t)) (ht : TagIn t c.tag) :
    decAlt dcfg fs j c = (decTy dcfg t c).map (.choice (j + k)) := by
  rw [decAlt_eq_member, member_dispatch dcfg c fs k j kd t ha hg ht]
  cases decTy dcfg t c <;> rfl

theorem setAt_append (pre : List Val) (x : Val) (r : List Val) (v : Val) :
    setAt (pre ++ x :: r) pre.length v = pre ++ v :: r := by
  induction pre with
  | nil => simp [setAt]
  | cons p pre ih => simp [setAt, ih]

end Asn1
