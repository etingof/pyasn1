/-
  Proofs.RealRT — binary REAL contents (X.690 8.5.7, base 2): what the encoder writes, the decoder
  reads back as the same number (same odd mantissa and exponent).
-/
import Asn1.Prim
import Asn1.BerSpec
import Proofs.PrimRT
import Proofs.Digits

namespace Asn1

theorem half_ne_zero {m : Nat} (h0 : m ≠ 0) (hev : m % 2 = 0) : m / 2 ≠ 0 :=
  fun hq => h0 (by rw [← Nat.div_add_mod m 2, hq, hev])

theorem normOdd_odd (fuel m : Nat) (e : Int) (h0 : m ≠ 0) (hle : m ≤ fuel) :
    (normOdd fuel m e).1 % 2 = 1 := by
  induction fuel, m, e using normOdd.induct with
  | case1 m e => exact absurd (Nat.le_zero.mp hle) h0
  | case2 fuel m e h ih =>
    rw [normOdd, if_pos h]
    exact ih (half_ne_zero h.1 h.2) (by omega)
  | case3 fuel m e h =>
    rw [normOdd, if_neg h]
    exact Nat.mod_two_ne_zero.mp fun hev => h ⟨h0, hev⟩

theorem normOdd_ne_zero (fuel m : Nat) (e : Int) (h0 : m ≠ 0) : (normOdd fuel m e).1 ≠ 0 := by
  induction fuel, m, e using normOdd.induct with
  | case1 m e => exact h0
  | case2 fuel m e h ih =>
    rw [normOdd, if_pos h]
    exact ih (half_ne_zero h.1 h.2)
  | case3 fuel m e h =>
    rw [normOdd, if_neg h]
    exact h0

theorem normOdd_of_odd (fuel m : Nat) (e : Int) (h : m % 2 = 1) : normOdd fuel m e = (m, e) := by
  cases fuel with
  | zero => rfl
  | succ f => simp [normOdd]; omega

theorem natToBytes_ne_nil (n : Nat) (h : n ≠ 0) : natToBytes n ≠ [] :=
  fun he => beDigits_ne_nil 254 n h (List.map_eq_nil_iff.mp he)

theorem realKey_odd (s : Prop) [Decidable s] (mo : Nat) (eo : Int) (hodd : mo % 2 = 1) :
    realKey (.fin (if s then -(mo : Int) else mo) 2 eo) = .fin (if s then -(mo : Int) else mo) 2 eo := by
  have hne : (mo : Int) ≠ 0 := by omega
  have hno := normOdd_of_odd mo mo eo hodd
  by_cases hs : s
  · rw [if_pos hs, realKey, if_neg (Int.neg_ne_zero.mpr hne), if_pos rfl, Int.natAbs_neg, Int.natAbs_natCast, hno]
    exact congrArg (RealVal.fin · 2 eo) (if_pos (show -(mo : Int) < 0 by omega))
  · rw [if_neg hs, realKey, if_neg hne, if_pos rfl, Int.natAbs_natCast, hno]
    exact congrArg (RealVal.fin · 2 eo) (if_neg (Int.not_lt.mpr (Int.natCast_nonneg mo)))

/-- the eight first octets of a binary REAL in base 2 with scale 0: bit 8 set, sign in bit 7, base and
    scale bits zero, exponent-length code `k` in bits 2-1 -/
theorem realLead_bits : ∀ (s : Bool) (k : Fin 4),
    let f := (UInt8.ofNat (0x80 + (if s then 0x40 else 0) + k.val)).toNat
    f ≥ 128 ∧ f % 4 = k.val ∧ f / 16 % 4 = 0 ∧ f / 4 % 4 = 0 ∧ (f / 64 % 2 = 1 ↔ s = true) := by
  decide

/-- how encoder and X.690 8.5.7.4 lay out the exponent octets `B`: code `k` added to the first octet
    is their number less one for up to three of them, and 3 otherwise, when their count goes in front -/
theorem expLenCode (fo : Nat) (B : Bytes) : ∃ k, k < 4 ∧ (k = 3 ∨ B.length = k + 1) ∧
    (if B.length = 1 then (fo, B) else if B.length = 2 then (fo + 1, B)
      else if B.length = 3 then (fo + 2, B) else (fo + 3, UInt8.ofNat B.length :: B))
      = (fo + k, (if k = 3 then [UInt8.ofNat B.length] else []) ++ B) := by
  by_cases h1 : B.length = 1
  · exact ⟨0, by decide, .inr h1, if_pos h1⟩
  · by_cases h2 : B.length = 2
    · exact ⟨1, by decide, .inr h2, by rw [if_neg h1, if_pos h2]; rfl⟩
    · by_cases h3 : B.length = 3
      · exact ⟨2, by decide, .inr h3, by rw [if_neg h1, if_neg h2, if_pos h3]; rfl⟩
      · exact ⟨3, by decide, .inl rfl, by rw [if_neg h1, if_neg h2, if_neg h3]; rfl⟩

/-- the decoder's reading of that layout: the count octet, or the code plus one, gives `E.length` back -/
theorem expLenRead {k : Nat} {E : Bytes} (M : Bytes) (hE : E ≠ []) (hl : E.length < 256)
    (h : k = 3 ∨ E.length = k + 1) :
    ∃ c0 r0, (if k = 3 then [UInt8.ofNat E.length] else []) ++ (E ++ M) = c0 :: r0 ∧
      (if k + 1 = 4 then (c0.toNat, r0) else (k + 1, c0 :: r0)) = (E.length, E ++ M) := by
  by_cases h3 : k = 3
  · exact ⟨_, _, by rw [if_pos h3]; rfl, by rw [if_pos (by omega), toNat_ofNat_lt _ hl]; rfl⟩
  · obtain ⟨x, E', rfl⟩ := List.exists_cons_of_ne_nil hE
    exact ⟨x, E' ++ M, by rw [if_neg h3]; rfl, by rw [if_neg (by omega), h.resolve_left h3]; rfl⟩

theorem realFromContent_bin (s : Prop) [Decidable s] {k : Nat} (hk : k < 4) {E M : Bytes} (hE : E ≠ [])
    (hM : M ≠ []) (hl : E.length < 256) (h : k = 3 ∨ E.length = k + 1) :
    realFromContent (UInt8.ofNat (0x80 + (if s then 0x40 else 0) + k) ::
        ((if k = 3 then [UInt8.ofNat E.length] else []) ++ (E ++ M)))
      = .ok (.fin (if s then -(bytesToNat M : Int) else bytesToNat M) 2 (intFromBytes E)) := by
  have hlead := realLead_bits (decide s) ⟨k, hk⟩
  simp only [decide_eq_true_eq] at hlead
  generalize UInt8.ofNat (0x80 + (if s then 0x40 else 0) + k) = fo at hlead ⊢
  obtain ⟨h1, h2, h3, h4, h5⟩ := hlead
  obtain ⟨c0, r0, hc, hrd⟩ := expLenRead M hE hl h
  rw [hc, realFromContent]
  simp only [h1, h2, h3, h4, h5, hrd, List.take_left', List.drop_left']
  simp [hE, hM]

theorem realFromContent_realBinToContent (m e : Int) (c : Bytes) (hm : m ≠ 0)
    (h : realBinToContent m e = some c) :
    ∃ r, realFromContent c = .ok r ∧ realKey r = realKey (.fin m 2 e) := by
  unfold realBinToContent at h
  simp only [hm, if_false] at h
  generalize hno : normOdd m.natAbs m.natAbs e = no at h
  obtain ⟨mo, eo⟩ := no
  have hmabs : m.natAbs ≠ 0 := by omega
  have hodd : mo % 2 = 1 := by
    have := normOdd_odd m.natAbs m.natAbs e hmabs (Nat.le_refl _)
    rwa [hno] at this
  have hkey : realKey (.fin m 2 e) = .fin (if m < 0 then -(mo : Int) else mo) 2 eo := by
    simp only [realKey, hm, if_false, if_true, hno]
  refine ⟨.fin (if m < 0 then -(mo : Int) else mo) 2 eo, ?_, hkey ▸ realKey_odd (m < 0) mo eo hodd⟩
  obtain ⟨k, hk, hkE, hch⟩ := expLenCode (0x80 + (if m < 0 then 0x40 else 0)) (intToBytes eo)
  simp only [hch] at h
  by_cases hbig : (intToBytes eo).length > 255
  · rw [if_pos hbig] at h; cases h
  · rw [if_neg hbig, List.append_assoc] at h
    cases h
    have := realFromContent_bin (m < 0) hk (intToBytes_ne_nil eo) (natToBytes_ne_nil mo (by omega))
      (by omega) hkE
    rwa [intFromBytes_intToBytes, natToBytes, bytesToNat_natsToBytes_be256] at this

end Asn1
