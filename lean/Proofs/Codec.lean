/-
  Proofs.Codec — encoder soundness (`Proofs.EncSpec`) composed with decoder completeness
  (`Proofs.Complete`): for any encoder configuration and any decoder configuration that admit a
  common profile, decoding what was encoded gives the value back (up to the order of SET OF
  elements) and leaves the tail.
-/
import Proofs.EncSpec
import Proofs.Complete

namespace Asn1

/-- what `encode` returns (the encoder's own `defMode` and `maxChunk` override the caller's) is an
    encoding of the value under the profile -/
theorem encItem_good (cfg : EncCfg) (pf : Profile) (o : EncOpts) (hi : o.ifNotEmpty = false)
    (hR : EncRegion cfg pf (cfg.fixedChunk.getD o.maxChunk))
    (t : Ty) (v : Val) (b : Bytes)
    (hreg : t.reg true cfg (cfg.fixedDefMode.getD o.defMode) = true) (hwf : t.WF = true)
    (hty : HasType t v = true) (hn : noE3 cfg.seqOmitEmpty t v = true)
    (h : encItem cfg o t v = .ok b) : GoodS pf (cfg.fixedDefMode.getD o.defMode) t v b :=
  encode_spec cfg pf _ _ hR o.ifNotEmpty hi t v b hreg hwf hty hn h

theorem encItem_spec (cfg : EncCfg) (dcfg : DecCfg) (pf : Profile) (o : EncOpts)
    (hi : o.ifNotEmpty = false)
    (hR : EncRegion cfg pf (cfg.fixedChunk.getD o.maxChunk))
    (hparse : cfg.fixedDefMode.getD o.defMode = true ∨ dcfg.parse.allowIndef = true)
    (t : Ty) (v : Val) (b : Bytes)
    (hreg : t.reg true cfg (cfg.fixedDefMode.getD o.defMode) = true) (hwf : t.WF = true)
    (hty : HasType t v = true) (hn : noE3 cfg.seqOmitEmpty t v = true)
    (h : encItem cfg o t v = .ok b) :
    ∃ x : TLV, b = x.ser ∧ x.WF ∧ x.okFor dcfg.parse ∧ IsBer pf t v x := by
  obtain ⟨x, hb, hxw, _, hxd, hber⟩ := encItem_good cfg pf o hi hR t v b hreg hwf hty hn h
  exact ⟨x, hb, hxw, hparse.symm.imp_right (lenForm_allDef hxd), hber⟩

/-- `encode` then `decode`, any codec pair with a common profile -/
theorem codec_roundtrip (cfg : EncCfg) (dcfg : DecCfg) (pf : Profile) (o : EncOpts)
    (hi : o.ifNotEmpty = false)
    (hR : EncRegion cfg pf (cfg.fixedChunk.getD o.maxChunk)) (hC : Compat pf dcfg)
    (hparse : cfg.fixedDefMode.getD o.defMode = true ∨ dcfg.parse.allowIndef = true)
    (t : Ty) (v : Val) (b tail : Bytes)
    (hreg : t.reg true cfg (cfg.fixedDefMode.getD o.defMode) = true) (hwf : t.WF = true)
    (hty : HasType t v = true) (hn : noE3 cfg.seqOmitEmpty t v = true)
    (h : encItem cfg o t v = .ok b) :
    ∃ w, decodeOne dcfg t (b ++ tail) = .ok (w, tail) ∧ VEq t v w := by
  obtain ⟨x, rfl, hxw, hok, hber⟩ := encItem_spec cfg dcfg pf o hi hR hparse t v b hreg hwf hty hn h
  obtain ⟨w, hd, hv, _⟩ := complete_ty pf dcfg hC t v x (reg_plain true cfg _ t hreg) hwf hber
  exact ⟨w, by rw [decodeOne_ser dcfg t x tail hxw hok, hd]; rfl, hv⟩

end Asn1
