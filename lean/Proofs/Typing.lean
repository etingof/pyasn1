/-
  Proofs.Typing — what `HasType`, `HasFields`, `Ty.WF` and `Fields.WF` say on each form of input:
  the shape of a typed value, a record's entry at a member, the parts of a well-formed type, and
  rule induction on the typing judgement.
-/
import Asn1.Typing

namespace Asn1

theorem HasType_ne_absent : ∀ (t : Ty), HasType t .absent = false
  | .tagged _ _ _ t => HasType_ne_absent t
  | .prim p => by cases p <;> rfl
  | .seq _ | .set _ | .seqOf _ | .setOf _ | .choice _ | .any => rfl

theorem hasType_bool {v : Val} (h : HasType (.prim .boolean) v = true) : ∃ b, v = .bool b := by
  cases v with
  | bool b => exact ⟨b, rfl⟩
  | _ => cases h

theorem hasType_int {v : Val} (h : HasType (.prim .integer) v = true) : ∃ z, v = .int z := by
  cases v with
  | int z => exact ⟨z, rfl⟩
  | _ => cases h

theorem hasType_enum {v : Val} (h : HasType (.prim .enumerated) v = true) : ∃ z, v = .int z := by
  cases v with
  | int z => exact ⟨z, rfl⟩
  | _ => cases h

theorem hasType_null {v : Val} (h : HasType (.prim .null) v = true) : v = .null := by
  cases v with
  | null => rfl
  | _ => cases h

theorem hasType_oid {v : Val} (h : HasType (.prim .oid) v = true) : ∃ arcs, v = .oid arcs := by
  cases v with
  | oid arcs => exact ⟨arcs, rfl⟩
  | _ => cases h

theorem hasType_real {v : Val} (h : HasType (.prim .real) v = true) : ∃ r, v = .real r := by
  cases v with
  | real r => exact ⟨r, rfl⟩
  | _ => cases h

theorem hasType_bits {v : Val} (h : HasType (.prim .bitString) v = true) : ∃ bs, v = .bits bs := by
  cases v with
  | bits bs => exact ⟨bs, rfl⟩
  | _ => cases h

theorem hasType_str {k : Nat} {v : Val} (h : HasType (.prim (.str k)) v = true) : ∃ bs, v = .str bs := by
  cases v with
  | str bs => exact ⟨bs, rfl⟩
  | _ => cases h

theorem hasType_seq {fs : Fields} {v : Val} (h : HasType (.seq fs) v = true) :
    ∃ vs, v = .seq vs ∧ HasFields fs vs = true := by
  cases v with
  | seq vs => exact ⟨vs, rfl, h⟩
  | _ => cases h

theorem hasType_set {fs : Fields} {v : Val} (h : HasType (.set fs) v = true) :
    ∃ vs, v = .seq vs ∧ HasFields fs vs = true := by
  cases v with
  | seq vs => exact ⟨vs, rfl, h⟩
  | _ => cases h

theorem hasType_seqOf {t : Ty} {v : Val} (h : HasType (.seqOf t) v = true) :
    ∃ vs, v = .seqOf vs ∧ ∀ x ∈ vs, HasType t x = true := by
  cases v with
  | seqOf vs => exact ⟨vs, rfl, fun x hx => List.all_eq_true.mp h x hx⟩
  | _ => cases h

theorem hasType_setOf {t : Ty} {v : Val} (h : HasType (.setOf t) v = true) :
    ∃ vs, v = .seqOf vs ∧ ∀ x ∈ vs, HasType t x = true := by
  cases v with
  | seqOf vs => exact ⟨vs, rfl, fun x hx => List.all_eq_true.mp h x hx⟩
  | _ => cases h

theorem hasType_choice {fs : Fields} {v : Val} (h : HasType (.choice fs) v = true) :
    ∃ i w, v = .choice i w ∧ HasAlt fs i w = true := by
  cases v with
  | choice i w => exact ⟨i, w, rfl, h⟩
  | _ => cases h

theorem hasFields_cons_iff {k : FKind} {t : Ty} {rest : Fields} {v : Val} {vs : List Val} :
    HasFields (.cons k t rest) (v :: vs) = true ↔
      ((k = .opt ∧ v = .absent) ∨ HasType t v = true) ∧ HasFields rest vs = true := by
  by_cases hv : v = .absent
  · subst hv
    cases k <;> simp [HasFields, HasType_ne_absent]
  · rw [HasFields, Bool.and_eq_true]
    · simp [hv]
    · exact fun _ => hv

theorem hasFields_cons {k : FKind} {t : Ty} {rest : Fields} {v : Val} {vs : List Val}
    (hv : HasType t v = true) (hvs : HasFields rest vs = true) :
    HasFields (.cons k t rest) (v :: vs) = true :=
  hasFields_cons_iff.mpr ⟨.inr hv, hvs⟩

theorem wf_tagged {e : Bool} {c : TagClass} {n : Nat} {t : Ty} (h : (Ty.tagged e c n t).WF = true) :
    t.WF = true := by
  cases e with
  | false => exact h
  | true => simp only [Ty.WF, Bool.and_eq_true] at h; exact h.2

theorem Fields.WF_cons {k : FKind} {t : Ty} {rest : Fields} (h : Fields.WF (.cons k t rest) = true) :
    t.WF = true ∧ Fields.WF rest = true ∧ ∀ d, k = .dflt d → HasType t d = true := by
  cases k <;> simp only [Fields.WF, Bool.and_eq_true] at h
  · exact ⟨h.1, h.2, nofun⟩
  · exact ⟨h.1, h.2, nofun⟩
  · exact ⟨h.1.1, h.2, fun d hd => by cases hd; exact h.1.2⟩

/-- the window rule at a member: it holds of the members that follow, and a member that may be
    left out differs in tag from those up to the next mandatory one -/
theorem seqDistinct_cons {k : FKind} {t : Ty} {rest : Fields}
    (h : seqDistinct (.cons k t rest) = true) :
    seqDistinct rest = true ∧ (k ≠ .req → windowFree t.outerTags rest = true) := by
  cases k <;> simp only [seqDistinct, Bool.and_eq_true] at h
  · exact ⟨h, fun hk => absurd rfl hk⟩
  · exact ⟨h.2, fun _ => h.1⟩
  · exact ⟨h.2, fun _ => h.1⟩

theorem windowFree_cons {tags : Option (List Tag)} {k : FKind} {t : Ty} {rest : Fields}
    (h : windowFree tags (.cons k t rest) = true) :
    outerOverlap tags t.outerTags = false ∧ (k ≠ .req → windowFree tags rest = true) := by
  cases k <;> simp only [windowFree, Bool.and_eq_true, Bool.not_eq_true'] at h
  · exact ⟨h, fun hk => absurd rfl hk⟩
  · exact ⟨h.1, fun _ => h.2⟩
  · exact ⟨h.1, fun _ => h.2⟩

/-- Rule induction on `HasType` / `HasAlt` / `HasFields`: one case per way a value can have a type,
    each with the typing of its parts and the induction hypotheses for them.  The shapes that have
    no type never come up. -/
theorem hasType_induct {P : Ty → Val → Prop} {R : Fields → Nat → Val → Prop}
    {Q : Fields → List Val → Prop}
    (tagged : ∀ e c n t v, HasType t v = true → P t v → P (.tagged e c n t) v)
    (boolean : ∀ b, P (.prim .boolean) (.bool b))
    (integer : ∀ z, P (.prim .integer) (.int z))
    (enumerated : ∀ z, P (.prim .enumerated) (.int z))
    (bitString : ∀ bs, P (.prim .bitString) (.bits bs))
    (null : P (.prim .null) .null)
    (oid : ∀ arcs, P (.prim .oid) (.oid arcs))
    (real : ∀ r, P (.prim .real) (.real r))
    (str : ∀ n bs, P (.prim (.str n)) (.str bs))
    (seq : ∀ fs vs, HasFields fs vs = true → Q fs vs → P (.seq fs) (.seq vs))
    (set : ∀ fs vs, HasFields fs vs = true → Q fs vs → P (.set fs) (.seq vs))
    (seqOf : ∀ t vs, (∀ v ∈ vs, HasType t v = true) → (∀ v ∈ vs, P t v) → P (.seqOf t) (.seqOf vs))
    (setOf : ∀ t vs, (∀ v ∈ vs, HasType t v = true) → (∀ v ∈ vs, P t v) → P (.setOf t) (.seqOf vs))
    (choice : ∀ fs i v, HasAlt fs i v = true → R fs i v → P (.choice fs) (.choice i v))
    (any : ∀ bs, P .any (.any bs))
    (here : ∀ k t rest v, HasType t v = true → P t v → R (.cons k t rest) 0 v)
    (there : ∀ k t rest i v, HasAlt rest i v = true → R rest i v → R (.cons k t rest) (i + 1) v)
    (nil : Q .nil [])
    (absent : ∀ t rest vs, HasFields rest vs = true → Q rest vs →
      Q (.cons .opt t rest) (.absent :: vs))
    (present : ∀ k t rest v vs, HasType t v = true → P t v → HasFields rest vs = true → Q rest vs →
      Q (.cons k t rest) (v :: vs)) :
    (∀ t v, HasType t v = true → P t v) ∧ (∀ fs i v, HasAlt fs i v = true → R fs i v) ∧
      (∀ fs vs, HasFields fs vs = true → Q fs vs) := by
  apply HasType.mutual_induct (fun t v => HasType t v = true → P t v)
    (fun fs i v => HasAlt fs i v = true → R fs i v) (fun fs vs => HasFields fs vs = true → Q fs vs)
  · intro e c n t v ih h; exact tagged e c n t v h (ih h)
  · exact fun b _ => boolean b
  · exact fun z _ => integer z
  · exact fun z _ => enumerated z
  · exact fun bs _ => bitString bs
  · exact fun _ => null
  · exact fun arcs _ => oid arcs
  · exact fun r _ => real r
  · exact fun n bs _ => str n bs
  · intro fs vs ih h; exact seq fs vs h (ih h)
  · intro fs vs ih h; exact set fs vs h (ih h)
  · intro t vs ih h; have h := List.all_eq_true.mp h; exact seqOf t vs h fun v hv => ih v (h v hv)
  · intro t vs ih h; have h := List.all_eq_true.mp h; exact setOf t vs h fun v hv => ih v (h v hv)
  · intro fs i v ih h; exact choice fs i v h (ih h)
  · exact fun bs _ => any bs
  · -- no earlier equation of `HasType` applies: the last one says `false`
    intro t v h1 h2 h3 h4 h5 h6 h7 h8 h9 h10 h11 h12 h13 h14 h15 h
    rw [HasType.eq_16 t v h1 h2 h3 h4 h5 h6 h7 h8 h9 h10 h11 h12 h13 h14 h15] at h; cases h
  · intro i v h; cases h
  · intro k t rest v ih h; exact here k t rest v h (ih h)
  · intro k t rest i v ih h; exact there k t rest i v h (ih h)
  · exact fun _ => nil
  · intro t rest vs ih h; exact absent t rest vs h (ih h)
  · intro k t rest v vs hk ih1 ih2 h
    rw [HasFields.eq_3 k t rest v vs hk, Bool.and_eq_true] at h
    exact present k t rest v vs h.1 (ih1 h.1) h.2 (ih2 h.2)
  · intro fs vs h1 h2 h3 h; rw [HasFields.eq_4 fs vs h1 h2 h3] at h; cases h

end Asn1
