/-
  Proofs.VEq — what "the same abstract value" (`VEq`, Asn1/BerSpec.lean) says at each type:
  equality, unless both values have the type's own shape; it keeps `absent` apart from values and
  relates every typed value to itself.
-/
import Asn1.BerSpec
import Proofs.Typing

namespace Asn1

theorem veq_prim {p : PrimTy} (hp : p ≠ .real) {a b : Val} : VEq (.prim p) a b ↔ a = b := by
  cases p with
  | real => exact absurd rfl hp
  | _ => exact Iff.rfl

theorem veq_real {a b : Val} (h : VEq (.prim .real) a b) :
    a = b ∨ ∃ x y, a = .real x ∧ b = .real y ∧ realKey x = realKey y := by
  cases a with
  | real x =>
    cases b with
    | real y => exact .inr ⟨x, y, rfl, rfl, h⟩
    | _ => exact .inl h
  | _ => exact .inl h

theorem veq_seq {fs : Fields} {a b : Val} (h : VEq (.seq fs) a b) :
    a = b ∨ ∃ as bs, a = .seq as ∧ b = .seq bs ∧ VEqFields fs as bs := by
  cases a with
  | seq as =>
    cases b with
    | seq bs => exact .inr ⟨as, bs, rfl, rfl, h⟩
    | _ => exact .inl h
  | _ => exact .inl h

theorem veq_set {fs : Fields} {a b : Val} (h : VEq (.set fs) a b) :
    a = b ∨ ∃ as bs, a = .seq as ∧ b = .seq bs ∧ VEqFields fs as bs := by
  cases a with
  | seq as =>
    cases b with
    | seq bs => exact .inr ⟨as, bs, rfl, rfl, h⟩
    | _ => exact .inl h
  | _ => exact .inl h

theorem veq_seqOf {t : Ty} {a b : Val} (h : VEq (.seqOf t) a b) :
    a = b ∨ ∃ as bs, a = .seqOf as ∧ b = .seqOf bs ∧ All2 (fun x y => VEq t x y) as bs := by
  cases a with
  | seqOf as =>
    cases b with
    | seqOf bs => exact .inr ⟨as, bs, rfl, rfl, h⟩
    | _ => exact .inl h
  | _ => exact .inl h

theorem veq_setOf {t : Ty} {a b : Val} (h : VEq (.setOf t) a b) :
    a = b ∨ ∃ as bs, a = .seqOf as ∧ b = .seqOf bs ∧
      ∃ cs, All2 (fun x y => VEq t x y) as cs ∧ cs.Perm bs := by
  cases a with
  | seqOf as =>
    cases b with
    | seqOf bs => exact .inr ⟨as, bs, rfl, rfl, h⟩
    | _ => exact .inl h
  | _ => exact .inl h

theorem veq_choice {fs : Fields} {a b : Val} (h : VEq (.choice fs) a b) :
    a = b ∨ ∃ i x y, a = .choice i x ∧ b = .choice i y ∧ VEqAlt fs i x y := by
  cases a with
  | choice i x =>
    cases b with
    | choice j y =>
      obtain ⟨rfl, hxy⟩ : i = j ∧ VEqAlt fs i x y := h
      exact .inr ⟨i, x, y, rfl, rfl, hxy⟩
    | _ => exact .inl h
  | _ => exact .inl h

theorem isAbsent_veq : ∀ (t : Ty) (v v' : Val), VEq t v v' → (v = .absent ↔ v' = .absent)
  | .tagged _ _ _ t => fun v v' h => isAbsent_veq t v v' h
  | .any => fun v v' h => by rw [show v = v' from h]
  | .prim p => fun v v' h => by
    by_cases hp : p = .real
    · subst hp
      rcases veq_real h with rfl | ⟨_, _, rfl, rfl, _⟩ <;> simp
    · rw [(veq_prim hp).mp h]
  | .seq _ => fun v v' h => by rcases veq_seq h with rfl | ⟨_, _, rfl, rfl, _⟩ <;> simp
  | .set _ => fun v v' h => by rcases veq_set h with rfl | ⟨_, _, rfl, rfl, _⟩ <;> simp
  | .seqOf _ => fun v v' h => by rcases veq_seqOf h with rfl | ⟨_, _, rfl, rfl, _⟩ <;> simp
  | .setOf _ => fun v v' h => by rcases veq_setOf h with rfl | ⟨_, _, rfl, rfl, _⟩ <;> simp
  | .choice _ => fun v v' h => by rcases veq_choice h with rfl | ⟨_, _, _, rfl, rfl, _⟩ <;> simp

theorem veq_absent : ∀ (t : Ty), VEq t .absent .absent
  | .tagged _ _ _ t => veq_absent t
  | .prim p => by cases p <;> exact rfl
  | .seq _ | .set _ | .seqOf _ | .setOf _ | .choice _ | .any => rfl

theorem all2_refl {α} {R : α → α → Prop} : ∀ (l : List α), (∀ a ∈ l, R a a) → All2 R l l
  | [], _ => trivial
  | a :: l, h => ⟨h a (by simp), all2_refl l (fun b hb => h b (by simp [hb]))⟩

mutual
theorem veq_refl : ∀ (t : Ty) (a : Val), HasType t a = true → VEq t a a
  | .tagged _ _ _ t => fun a h => veq_refl t a h
  | .prim p => fun a _ => by
      by_cases hp : p = .real
      · subst hp; cases a <;> exact rfl
      · exact (veq_prim hp).mpr rfl
  | .any => fun a _ => by cases a <;> exact rfl
  | .seq fs => fun a h => by
      obtain ⟨vs, rfl, hvs⟩ := hasType_seq h
      exact veqF_refl fs vs hvs
  | .set fs => fun a h => by
      obtain ⟨vs, rfl, hvs⟩ := hasType_set h
      exact veqF_refl fs vs hvs
  | .seqOf t => fun a h => by
      obtain ⟨vs, rfl, hvs⟩ := hasType_seqOf h
      exact all2_refl vs fun v hv => veq_refl t v (hvs v hv)
  | .setOf t => fun a h => by
      obtain ⟨vs, rfl, hvs⟩ := hasType_setOf h
      exact ⟨vs, all2_refl vs fun v hv => veq_refl t v (hvs v hv), .refl _⟩
  | .choice fs => fun a h => by
      obtain ⟨i, w, rfl, hw⟩ := hasType_choice h
      exact ⟨rfl, veqA_refl fs i w hw⟩
theorem veqF_refl : ∀ (fs : Fields) (vs : List Val), HasFields fs vs = true → VEqFields fs vs vs
  | .nil, [], _ => trivial
  | .nil, _ :: _, h => by cases h
  | .cons _ _ _, [], h => by simp [HasFields] at h
  | .cons kd t rest, v :: vs, h => by
      obtain ⟨hv, hr⟩ := hasFields_cons_iff.mp h
      refine ⟨?_, veqF_refl rest vs hr⟩
      rcases hv with ⟨_, rfl⟩ | hv
      · exact veq_absent t
      · exact veq_refl t v hv
theorem veqA_refl : ∀ (fs : Fields) (i : Nat) (w : Val), HasAlt fs i w = true → VEqAlt fs i w w
  | .nil, _ => fun _ h => by cases h
  | .cons _ t _, 0 => fun w h => veq_refl t w h
  | .cons _ _ r, i + 1 => fun w h => veqA_refl r i w h
end

end Asn1
