/-
  Proofs.ConstraintTyped — a constructible constraint applied to a value it is applicable to never
  raises anything but ValueConstraintError (`run … ≠ leak`), so on the property's domain the
  evaluator decides membership in the denotation.
-/
import Proofs.Constraint

namespace Asn1.Constraint

theorem ite_no_leak {c : Prop} [Decidable c] {r r' : Res} (h : r ≠ .leak) (h' : r' ≠ .leak) :
    (if c then r else r') ≠ .leak := by
  split <;> assumption

theorem inSet_no_leak {s : List Atom} {v : CVal} (h : v.isAtom = true) : inSet s v ≠ .leak := by
  cases v with
  | atom a => exact ite_no_leak nofun nofun
  | _ => cases h

theorem inRange_no_leak {lo hi : Int} {v : CVal} (h : v.isInt = true) : inRange lo hi v ≠ .leak := by
  cases v with
  | atom a =>
    cases a with
    | int z => exact ite_no_leak nofun nofun
    | _ => cases h
  | _ => cases h

theorem inSize_no_leak {lo hi : Int} {v : CVal} (h : v.len.isSome = true) : inSize lo hi v ≠ .leak := by
  unfold inSize
  cases hl : v.len with
  | none => rw [hl] at h; cases h
  | some n => exact ite_no_leak nofun nofun

theorem inAlphabet_no_leak {s : List Atom} {v : CVal} (h : v.elems.isSome = true) :
    inAlphabet s v ≠ .leak := by
  unfold inAlphabet
  cases hl : v.elems with
  | none => rw [hl] at h; cases h
  | some es => exact ite_no_leak nofun nofun

theorem and_no_leak {r r' : Res} (h : r ≠ .leak) (h' : r' ≠ .leak) :
    (match r with | .accept => r' | x => x) ≠ .leak := by
  cases r with
  | accept => exact h'
  | _ => exact h

theorem or_no_leak {r r' : Res} (h : r ≠ .leak) (h' : r' ≠ .leak) :
    (match r with | .accept => Res.accept | .reject => r' | .leak => .leak) ≠ .leak := by
  cases r with
  | accept => nofun
  | reject => exact h'
  | leak => exact h

theorem not_no_leak {r : Res} (h : r ≠ .leak) :
    (match r with | .accept => Res.reject | .reject => .accept | .leak => .leak) ≠ .leak := by
  cases r with
  | leak => exact h
  | _ => nofun

theorem shortcut_no_leak {ops : Ops} {r : Res} (h : ops.isNil = true ∨ r ≠ .leak) :
    (if ops.isNil = true then Res.accept else r) ≠ .leak := by
  split
  · nofun
  · exact h.resolve_left ‹_›

theorem raws_nil_of_wf : ∀ (ops : Ops) (sh : Shape), sh.raw = false → wfOps sh ops = true → ops.raws = []
  | .nil => fun _ _ _ => rfl
  | .raw _ _ => fun _ hr hw => by simp [wfOps, hr] at hw
  | .con _ rest | .field _ _ rest | .entry _ _ _ rest => fun sh hr hw =>
    raws_nil_of_wf rest sh hr (Bool.and_eq_true_iff.mp hw).2

mutual
theorem typed_no_leak : ∀ (c : Constr) (i : Option Nat) (v : CVal),
    c.wf = true → typed c v = true → run c i v ≠ .leak
  | .mk k ops, i, v, hwf, ht => by
    have hw := wfOps_of_wf hwf
    cases k with
    | componentPresent | componentAbsent => exact ite_no_leak nofun nofun
    | singleValue =>
      exact shortcut_no_leak ((typed_singleValue.mp ht).imp_right inSet_no_leak)
    | permittedAlphabet =>
      exact shortcut_no_leak ((typed_permittedAlphabet.mp ht).imp_right inAlphabet_no_leak)
    | valueRange =>
      obtain ⟨lo, hi, hb, _⟩ := bounds_of_wf (.inl rfl) hwf
      dsimp only [run]
      rw [hb]
      exact inRange_no_leak ht
    | valueSize =>
      obtain ⟨lo, hi, hb, _⟩ := bounds_of_wf (.inr rfl) hwf
      dsimp only [run]
      rw [hb]
      exact inSize_no_leak ht
    | containedSubtype =>
      obtain ⟨ht, hr⟩ := typed_containedSubtype.mp ht
      exact shortcut_no_leak (.inr (typed_runAll ops _ _ i v hw rfl rfl ht hr))
    | intersection =>
      exact shortcut_no_leak (.inr
        (typed_runAll ops _ _ i v hw rfl rfl ht (.inl (raws_nil_of_wf ops _ rfl hw))))
    | union => exact shortcut_no_leak (.inr (typed_runAny ops _ i v hw rfl rfl rfl ht))
    | exclusion =>
      exact shortcut_no_leak (.inr
        (runNone_eq_not_runAny ops i v ▸ not_no_leak (typed_runAny ops _ i v hw rfl rfl rfl ht)))
    | withComponents =>
      exact shortcut_no_leak
        ((typed_withComponents.mp ht).imp_right (typed_runFields ops _ v hw rfl rfl rfl))
    | innerType =>
      refine shortcut_no_leak (.inr
        (ite_no_leak (typed_runLastCon ops _ v hw rfl rfl ht) (ite_no_leak ?_ nofun)))
      cases i with
      | none => nofun
      | some j => exact typed_runEntry ops _ j v hw rfl rfl ht
theorem typed_runAll : ∀ (ops : Ops) (sh : Shape) (s : List Atom) (i : Option Nat) (v : CVal),
    wfOps sh ops = true → sh.field = false → sh.entry = false → typedOps ops v = true →
    (ops.raws = [] ∨ v.isAtom = true) → runAll ops s i v ≠ .leak
  | .nil => by intros; nofun
  | .con c rest => fun sh s i v hw hf he ht hr => by
    obtain ⟨⟨-, hc⟩, hw⟩ := wfOps_con.mp hw
    obtain ⟨htc, ht⟩ := typedOps_con.mp ht
    exact and_no_leak (typed_no_leak c i v hc htc) (typed_runAll rest sh s i v hw hf he ht hr)
  | .raw a rest => fun sh s i v hw hf he ht hr =>
    have hv : v.isAtom = true := hr.resolve_left nofun
    and_no_leak (inSet_no_leak hv)
      (typed_runAll rest sh s i v (wfOps_raw.mp hw).2 hf he ht (.inr hv))
  | .field _ _ _ | .entry _ _ _ _ => fun sh _ _ _ hw hf he _ _ => by
    simp [wfOps, hf, he] at hw
theorem typed_runAny : ∀ (ops : Ops) (sh : Shape) (i : Option Nat) (v : CVal),
    wfOps sh ops = true → sh.raw = false → sh.field = false → sh.entry = false →
    typedOps ops v = true → runAny ops i v ≠ .leak
  | .nil => by intros; nofun
  | .con c rest => fun sh i v hw hr hf he ht => by
    obtain ⟨⟨-, hc⟩, hw⟩ := wfOps_con.mp hw
    obtain ⟨htc, ht⟩ := typedOps_con.mp ht
    exact or_no_leak (typed_no_leak c i v hc htc) (typed_runAny rest sh i v hw hr hf he ht)
  | .raw _ _ | .field _ _ _ | .entry _ _ _ _ => fun sh _ _ hw hr hf he _ => by
    simp [wfOps, hr, hf, he] at hw
theorem typed_runFields : ∀ (ops : Ops) (sh : Shape) (v : CVal),
    wfOps sh ops = true → sh.con = false → sh.raw = false → sh.entry = false →
    typedFields ops v = true → runFields ops v ≠ .leak
  | .nil => by intros; nofun
  | .field f c rest => fun sh v hw hcn hr he ht => by
    obtain ⟨⟨-, hc⟩, hw⟩ := wfOps_field.mp hw
    obtain ⟨⟨x, hg, hx⟩, ht⟩ := typedFields_field.mp ht
    dsimp only [runFields]
    rw [hg]
    exact and_no_leak (typed_no_leak c none x hc hx) (typed_runFields rest sh v hw hcn hr he ht)
  | .con _ _ | .raw _ _ | .entry _ _ _ _ => fun sh _ hw hcn hr he _ => by
    simp [wfOps, hcn, hr, he] at hw
theorem typed_runLastCon : ∀ (ops : Ops) (sh : Shape) (v : CVal),
    wfOps sh ops = true → sh.raw = false → sh.field = false →
    typedOps ops v = true → runLastCon ops v ≠ .leak
  | .nil => by intros; nofun
  | .con c rest => fun sh v hw hr hf ht => by
    obtain ⟨⟨-, hc⟩, hw⟩ := wfOps_con.mp hw
    obtain ⟨htc, ht⟩ := typedOps_con.mp ht
    exact ite_no_leak (typed_runLastCon rest sh v hw hr hf ht) (typed_no_leak c none v hc htc)
  | .entry _ c _ rest => fun sh v hw hr hf ht =>
    typed_runLastCon rest sh v (wfOps_entry.mp hw).2 hr hf (typedOps_entry.mp ht).2
  | .raw _ _ | .field _ _ _ => fun sh _ hw hr hf _ => by simp [wfOps, hr, hf] at hw
theorem typed_runEntry : ∀ (ops : Ops) (sh : Shape) (j : Nat) (v : CVal),
    wfOps sh ops = true → sh.raw = false → sh.field = false →
    typedOps ops v = true → runEntry ops j v ≠ .leak
  | .nil => by intros; nofun
  | .entry k c ab rest => fun sh j v hw hr hf ht => by
    obtain ⟨⟨-, hc⟩, hw⟩ := wfOps_entry.mp hw
    obtain ⟨htc, ht⟩ := typedOps_entry.mp ht
    exact ite_no_leak (typed_runEntry rest sh j v hw hr hf ht)
      (ite_no_leak (ite_no_leak nofun (typed_no_leak c none v hc htc)) nofun)
  | .con c rest => fun sh j v hw hr hf ht =>
    typed_runEntry rest sh j v (wfOps_con.mp hw).2 hr hf (typedOps_con.mp ht).2
  | .raw _ _ | .field _ _ _ => fun sh _ _ hw hr hf _ => by simp [wfOps, hr, hf] at hw
end

theorem typed_runNone : ∀ (ops : Ops) (sh : Shape) (i : Option Nat) (v : CVal),
    wfOps sh ops = true → sh.raw = false → sh.field = false → sh.entry = false →
    typedOps ops v = true → runNone ops i v ≠ .leak :=
  fun ops sh i v hw hr hf he ht =>
    runNone_eq_not_runAny ops i v ▸ not_no_leak (typed_runAny ops sh i v hw hr hf he ht)

end Asn1.Constraint
