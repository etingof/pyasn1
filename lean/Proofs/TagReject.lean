/-
  Proofs.TagReject — what the decoder's tag matching demands of an element, read off the
  tag-list normal form `decG`:
    * whatever a type accepts carries the type's tags (class and number), outermost first, on
      its spine of single-child wrappers;
    * the same element is rejected by every type of the same tagging depth whose tags differ in
      class or number at any level.
-/
import Proofs.DecTags
import Proofs.Parse

namespace Asn1

/-- the element carries the tags `os` (outermost first): every tag but the last sits on a
    constructed wrapper holding exactly one element, the last one on the element that holds the
    contents, whose constructed bit says whether these are primitive -/
def Carries : List Tag → TLV → Prop
  | [], _ => True
  | [o], x => sameTag x.tag o = true ∧ (x.tag.constructed = true ↔ ∃ h t i cs, x = .cons h t i cs)
  | o :: o' :: rest, .cons _ tg _ [c] =>
      sameTag tg o = true ∧ tg.constructed = true ∧ Carries (o' :: rest) c
  | _ :: _ :: _, _ => False

theorem wf_constructed_iff (x : TLV) (hw : x.WF) :
    x.tag.constructed = true ↔ ∃ h t i cs, x = .cons h t i cs := by
  cases x with
  | prim h t c =>
    simp only [TLV.tag]
    constructor
    · intro hc; rw [hw.2] at hc; exact absurd hc (by simp)
    · intro ⟨_, _, _, _, he⟩; cases he
  | cons h t i cs =>
    simp only [TLV.tag]
    constructor
    · intro _; exact ⟨h, t, i, cs, rfl⟩
    · intro _; cases i
      · exact hw.2.1
      · exact hw.2.1

theorem decG_carries (cfg : DecCfg) (base : Ty) (v : Val) : ∀ (os : List Tag) (x : TLV), x.WF →
    decG cfg base true os x = .ok v → Carries os x
  | [] => fun _ _ _ => trivial
  | [o] => fun x hw h => by
      rw [decG_head cfg base o o, Res.ite_eq_ok] at h
      exact ⟨h.1, wf_constructed_iff x hw⟩
  | o :: o' :: rest => fun x hw h => by
      rw [decG_head cfg base o o, Res.ite_eq_ok, decG_wrapper] at h
      obtain ⟨hd, tg, i, child, rfl, hc⟩ := onlyChild_ok.mp h.2
      have hcw : child.WF ∧ tg.constructed = true := by
        cases i with
        | true => exact ⟨hw.2.2.1.1, hw.2.1⟩
        | false => exact ⟨hw.2.2.1, hw.2.1⟩
      exact ⟨h.1, hcw.2, decG_carries cfg base v (o' :: rest) child hcw.1 hc⟩

/-- two tag lists of the same length differ in class or number somewhere -/
def tagsDiffer : List Tag → List Tag → Bool
  | a :: as, b :: bs => !a.same b || tagsDiffer as bs
  | _, _ => false

theorem sameTag_trans_ne (a o o' : Tag) (h1 : sameTag a o = true) (h2 : o.same o' = false) :
    sameTag a o' = false := by
  simp only [sameTag, decide_eq_true_eq] at h1
  simp only [Tag.same, Bool.and_eq_false_iff, beq_eq_false_iff_ne] at h2
  simp only [sameTag, decide_eq_false_iff_not, not_and]
  intro hc
  rcases h2 with h2 | h2
  · exact absurd (h1.1.symm.trans hc) h2
  · intro hn; exact h2 (h1.2.symm.trans hn)

theorem decG_reject (cfg : DecCfg) (base base' : Ty) (v : Val) : ∀ (os os' : List Tag) (x : TLV),
    os.length = os'.length → tagsDiffer os os' = true →
    decG cfg base true os x = .ok v → decG cfg base' true os' x = .error .malformed
  | [], _ => fun _ _ hd _ => by simp [tagsDiffer] at hd
  | _ :: _, [] => fun _ hl _ _ => by simp at hl
  | o :: rest, o' :: rest' => fun x hl hd h => by
      rw [decG_head cfg base o o, Res.ite_eq_ok] at h
      rw [decG_head cfg base' o' o']
      cases hoo : o.same o' with
      | false => rw [if_neg (by rw [sameTag_trans_ne x.tag o o' h.1 hoo]; exact Bool.false_ne_true)]
      | true =>
        -- the tags agree here, so they differ further in, behind a wrapper around one element
        rw [tagsDiffer, hoo] at hd
        split
        · match rest, rest', hl, hd with
          | o2 :: rest, o2' :: rest', hl, hd =>
            rw [decG_wrapper] at h ⊢
            obtain ⟨_, _, _, child, rfl, hc⟩ := onlyChild_ok.mp h.2
            exact decG_reject cfg base base' v _ _ child (by simpa using hl) hd hc
          | [], [], _, hd | [], _ :: _, _, hd | _ :: _, [], _, hd => simp [tagsDiffer] at hd
        · rfl

/-- **near-miss types reject**: if `t` accepts an element then a type of the same tagging depth
    whose tags differ in class or number at some level rejects it -/
theorem decTy_reject (cfg : DecCfg) (t t' : Ty) (x : TLV) (v : Val)
    (ha : isAnyBase t = false) (ha' : isAnyBase t' = false)
    (hl : t.tags.length = t'.tags.length) (hd : tagsDiffer t.tags.reverse t'.tags.reverse = true)
    (h : decTy cfg t x = .ok v) : decTy cfg t' x = .error .malformed := by
  rw [decTy_decG cfg t x ha] at h
  rw [decTy_decG cfg t' x ha']
  exact decG_reject cfg t.base t'.base v _ _ x (by simpa using hl) hd h

/-- **accepted elements carry the type's tags**, outermost first, with the constructed bit on
    every wrapper -/
theorem decTy_carries (cfg : DecCfg) (t : Ty) (x : TLV) (v : Val) (ha : isAnyBase t = false)
    (hw : x.WF) (h : decTy cfg t x = .ok v) : Carries t.tags.reverse x := by
  rw [decTy_decG cfg t x ha] at h
  exact decG_carries cfg t.base v t.tags.reverse x hw h

end Asn1
