/-
  Proofs.SchemalessLeaves — decoding without a guiding type recovers the scalar leaves.
  For types that use only universal tags and EXPLICIT tagging, without SET / SET OF (whose wire
  order is not the declaration order) and without DEFAULT members (which may be left out), every
  encoding the rules allow (`IsBer`) is decoded by the schemaless decoder to a value object whose
  leaves, read in order, are the leaves of the value.
-/
import Asn1.Schemaless
import Proofs.Complete

namespace Asn1

mutual
/-- self-describing, ordered: universal tags and explicit tagging only, no ANY, no REAL (its value is
    only recovered as a number), no SET / SET OF, no DEFAULT members -/
def Ty.selfDesc : Ty → Bool
  | .prim .real => false
  | .prim (.str k) => strNums.contains k
  | .prim _ => true
  | .any => false
  | .tagged true _ _ t => t.selfDesc
  | .tagged false _ _ _ => false
  | .seq fs => Fields.selfDesc fs
  | .set _ => false
  | .seqOf t => t.selfDesc
  | .setOf _ => false
  | .choice fs => Fields.selfDesc fs
def Fields.selfDesc : Fields → Bool
  | .nil => true
  | .cons (.dflt _) _ _ => false
  | .cons _ t r => t.selfDesc && Fields.selfDesc r
end

mutual
/-- the scalar leaves of a value, in declaration order -/
def leavesOf : Ty → Val → List (Nat × Val)
  | .tagged _ _ _ t, v => leavesOf t v
  | .prim p, v => [(p.univNum, v)]
  | .seq fs, .seq vs => leavesF fs vs
  | .seqOf t, .seqOf vs => leavesE t vs
  | .choice fs, .choice i w => leavesA fs i w
  | _, _ => []
def leavesF : Fields → List Val → List (Nat × Val)
  | .cons _ _ r, .absent :: vs => leavesF r vs
  | .cons _ t r, v :: vs => leavesOf t v ++ leavesF r vs
  | _, _ => []
def leavesA : Fields → Nat → Val → List (Nat × Val)
  | .nil, _, _ => []
  | .cons _ t _, 0, w => leavesOf t w
  | .cons _ _ r, i + 1, w => leavesA r i w
def leavesE (t : Ty) : List Val → List (Nat × Val)
  | [] => []
  | v :: vs => leavesOf t v ++ leavesE t vs
end

theorem Fields.selfDesc_cons {kd : FKind} {t : Ty} {rest : Fields}
    (h : Fields.selfDesc (.cons kd t rest) = true) :
    t.selfDesc = true ∧ Fields.selfDesc rest = true ∧ ∀ d, kd ≠ .dflt d := by
  cases kd <;> simp_all [Fields.selfDesc]

theorem leavesF_absent (k : FKind) (t : Ty) (r : Fields) (vs : List Val) :
    leavesF (.cons k t r) (.absent :: vs) = leavesF r vs := by
  rw [leavesF]

theorem leavesF_present (k : FKind) (t : Ty) (r : Fields) {v : Val} (vs : List Val) (hv : v ≠ .absent) :
    leavesF (.cons k t r) (v :: vs) = leavesOf t v ++ leavesF r vs := by
  rw [leavesF]
  exact hv

theorem strNums_not_scalar (k : Nat) (h : strNums.contains k = true) :
    k ≠ 1 ∧ k ≠ 2 ∧ k ≠ 3 ∧ k ≠ 5 ∧ k ≠ 6 ∧ k ≠ 9 ∧ k ≠ 10 ∧ k ≠ 16 ∧ k ≠ 17 := by
  refine ⟨?_, ?_, ?_, ?_, ?_, ?_, ?_, ?_, ?_⟩ <;> (intro hk; subst hk; revert h; decide)

theorem strNums_eq_all : strNums = allStrKinds := rfl

theorem decU_container (dcfg : DecCfg) (h : Bytes) (tg : Tag) (i : Bool) (cs : List TLV) (us : List UVal)
    (h1 : tg.cls = .universal) (h2 : tg.num = 16 ∨ tg.num = 17) (hd : decUs dcfg cs = .ok us) :
    ∃ u, decU dcfg (.cons h tg i cs) = .ok u ∧ u.leaves = leavesL us := by
  unfold decU
  simp only [if_pos h1, if_pos h2, hd]
  exact ⟨_, rfl, (apply_ite UVal.leaves _ _ _).trans (ite_self _)⟩

/-- under the universal tag of a scalar type the codec chosen by tag is that type's payload decoder -/
theorem decU_scalar (cfg : DecCfg) (p : PrimTy) (hk : ∀ k, p = .str k → strNums.contains k = true)
    (x : TLV) (h1 : x.tag.cls = .universal) (h2 : x.tag.num = p.univNum) :
    decU cfg x = (decPrim cfg p x).map (.leaf p.univNum) := by
  cases x with
  | prim hh tg c =>
    simp only [TLV.tag] at h1 h2
    rw [decU, if_pos h1, h2]
    cases p with
    | str k =>
      obtain ⟨k1, k2, k3, k5, k6, k9, k10, _, _⟩ := strNums_not_scalar k (hk k rfl)
      simp only [PrimTy.univNum, k1, k2, k3, k5, k6, k9, k10, hk k rfl, if_false, if_true]
    | _ => rfl
  | cons hh tg i cs =>
    simp only [TLV.tag] at h1 h2
    unfold decU
    simp only [if_pos h1, h2]
    cases p with
    | str k =>
      obtain ⟨_, _, k3, _, _, _, _, k16, k17⟩ := strNums_not_scalar k (hk k rfl)
      simp only [PrimTy.univNum, k3, k16, k17, hk k rfl, if_false, if_true, or_self]
    | _ => rfl

/-- a scalar (any form the rules allow: primitive, or segmented for strings) is read back under
    its universal tag as the leaf it is -/
theorem prim_decU (pf : Profile) (dcfg : DecCfg) (hc : Compat pf dcfg) (p : PrimTy) (v : Val) (x : TLV)
    (hs : (Ty.prim p).selfDesc = true) (h1 : x.tag.cls = .universal) (h2 : x.tag.num = p.univNum)
    (hb : IsBody pf (.prim p) v x) : decU dcfg x = .ok (.leaf p.univNum v) := by
  have hpl : (Ty.prim p).plain = true := by
    cases p with
    | str k => exact hs
    | _ => rfl
  have hk : ∀ k, p = .str k → strNums.contains k = true := by
    rintro k rfl; exact hs
  have hr : p ≠ .real := by
    rintro rfl; cases hs
  obtain ⟨w, hd, hv⟩ := prim_complete pf dcfg hc p hpl v x hb
  obtain rfl := (veq_prim hr).mp hv
  rw [decU_scalar dcfg p hk x h1 h2, hd]
  rfl

theorem decodeSchemaless_ser (dcfg : DecCfg) (x : TLV) (tail : Bytes) (hw : x.WF)
    (ho : x.okFor dcfg.parse) : decodeSchemaless dcfg (x.ser ++ tail) = (decU dcfg x).map (·, tail) := by
  unfold decodeSchemaless
  rw [parseOne_ser dcfg.parse x tail hw ho]

theorem elems_leaves (pf : Profile) (dcfg : DecCfg) (t : Ty)
    (ih : ∀ v c, IsBer pf t v c → ∃ u, decU dcfg c = .ok u ∧ u.leaves = leavesOf t v)
    {vs cs} (h : IsElems pf t vs cs) : ∃ us, decUs dcfg cs = .ok us ∧ leavesL us = leavesE t vs := by
  apply h.induction
  · exact ⟨[], by rw [decUs], by rw [leavesL, leavesE]⟩
  · rintro v vs c cs hb ⟨us, hds, hls⟩
    obtain ⟨u, hd, hl⟩ := ih v c hb
    exact ⟨u :: us, by rw [decUs, hd, hds]; rfl, by rw [leavesL, leavesE, hl, hls]⟩

theorem isBody_absent_false (pf : Profile) : ∀ (t : Ty) (x : TLV), IsBody pf t .absent x → False :=
  fun t x h => (ne_absent pf t).2 _ x h rfl

variable (pf : Profile) (dcfg : DecCfg) (hc : Compat pf dcfg)
include hc

mutual
theorem leaves_ty : ∀ (t : Ty) (v : Val) (x : TLV), t.selfDesc = true → t.WF = true →
    IsBer pf t v x → ∃ u, decU dcfg x = .ok u ∧ u.leaves = leavesOf t v
  | .tagged true cls num t => fun v x hs hw h => by
      simp only [Ty.WF, Bool.and_eq_true, bne_iff_ne] at hw
      cases h with
      | @explicit _ _ _ _ hh tg i c h1 h2 h3 =>
        obtain ⟨u, hd, hl⟩ := leaves_ty t v c hs hw.2 h3
        have hnu : ¬ (tg.cls = .universal) := by rw [h1]; exact hw.1
        exact ⟨.tagged tg u, by rw [decU, if_neg hnu, hd]; rfl, by rw [UVal.leaves, leavesOf, hl]⟩
  | .tagged false _ _ _ => fun _ _ hs => by cases hs
  | .any => fun _ _ hs => by cases hs
  | .set _ => fun _ _ hs => by cases hs
  | .setOf _ => fun _ _ hs => by cases hs
  | .prim p => fun v x hs _ h => by
      obtain ⟨h1, h2, h3⟩ := h.outer rfl
      exact ⟨.leaf p.univNum v, prim_decU pf dcfg hc p v x hs h1 h2 h3, by rw [UVal.leaves, leavesOf]⟩
  | .seq fs => fun v x hs hw h => by
      simp only [Ty.WF, Bool.and_eq_true] at hw
      obtain ⟨h1, h2, h3⟩ := h.outer rfl
      cases h3 with
      | @seq _ vs hh tg i cs hf =>
        obtain ⟨us, hd, hl⟩ := leaves_fields fs vs cs hs hw.1 hf
        obtain ⟨u, hu, hlu⟩ := decU_container dcfg hh tg i cs us h1 (Or.inl h2) hd
        exact ⟨u, hu, by rw [hlu, hl, leavesOf]⟩
  | .seqOf t => fun v x hs hw h => by
      obtain ⟨h1, h2, h3⟩ := h.outer rfl
      cases h3 with
      | @seqOf _ vs hh tg i cs he =>
        obtain ⟨us, hd, hl⟩ := elems_leaves pf dcfg t (fun v c hb => leaves_ty t v c hs hw hb) he
        obtain ⟨u, hu, hlu⟩ := decU_container dcfg hh tg i cs us h1 (Or.inl h2) hd
        exact ⟨u, hu, by rw [hlu, hl, leavesOf]⟩
  | .choice fs => fun v x hs hw h => by
      simp only [Ty.WF, Bool.and_eq_true] at hw
      cases h with
      | @choice _ i w _ ha =>
        obtain ⟨u, hd, hl⟩ := leaves_alt fs i w x hs hw.1.1 ha
        exact ⟨u, hd, by rw [hl, leavesOf]⟩
theorem leaves_fields : ∀ (fs : Fields) (vs : List Val) (cs : List TLV),
    Fields.selfDesc fs = true → Fields.WF fs = true → IsFields pf fs vs cs →
    ∃ us, decUs dcfg cs = .ok us ∧ leavesL us = leavesF fs vs
  | .nil => fun vs cs _ _ h => by
      cases h; exact ⟨[], by rw [decUs], by simp [leavesL, leavesF]⟩
  | .cons kd t rest => fun vs cs hs hw h => by
      have hs' := Fields.selfDesc_cons hs
      have hw' := Fields.WF_cons hw
      cases h with
      | absentOpt hr =>
        obtain ⟨us, hd, hl⟩ := leaves_fields rest _ cs hs'.2.1 hw'.2.1 hr
        exact ⟨us, hd, by rw [hl, leavesF_absent]⟩
      | absentDflt hr => exact absurd rfl (hs'.2.2 _)
      | @present _ _ _ v vs' c cs' hb hr =>
        obtain ⟨u, hd, hl⟩ := leaves_ty t v c hs'.1 hw'.1 hb
        obtain ⟨us, hds, hls⟩ := leaves_fields rest vs' cs' hs'.2.1 hw'.2.1 hr
        refine ⟨u :: us, by rw [decUs, hd, hds]; rfl, ?_⟩
        rw [leavesL, hl, hls, leavesF_present _ _ _ _ ((ne_absent pf t).1 v c hb)]
theorem leaves_alt : ∀ (fs : Fields) (i : Nat) (w : Val) (x : TLV),
    Fields.selfDesc fs = true → Fields.WF fs = true → IsAlt pf fs i w x →
    ∃ u, decU dcfg x = .ok u ∧ u.leaves = leavesA fs i w
  | .nil => fun _ _ _ _ _ h => by cases h
  | .cons kd t rest => fun i w x hs hw h => by
      have hs' := Fields.selfDesc_cons hs
      have hw' := Fields.WF_cons hw
      cases h with
      | here hb =>
        obtain ⟨u, hd, hl⟩ := leaves_ty t w x hs'.1 hw'.1 hb
        exact ⟨u, hd, by rw [hl, leavesA]⟩
      | @there _ _ _ j _ _ ha =>
        obtain ⟨u, hd, hl⟩ := leaves_alt rest j w x hs'.2.1 hw'.2.1 ha
        exact ⟨u, hd, by rw [hl, leavesA]⟩
end

end Asn1
