/-
  Proofs.TimeRoundtrip — `asDateTime (fromDateTime dt) = dt` for GeneralizedTime and UTCTime:
  the strptime groups on well-formed digit fields, the zone designator and the fraction.
-/
import Proofs.TimeDigits

namespace Asn1.Time

/-- what CPython's `datetime` guarantees of any datetime object, as digit fields -/
structure ValidDT (dt : DT) : Prop where
  year : 1 ≤ dt.year ∧ dt.year ≤ 9999
  month : 1 ≤ dt.month ∧ dt.month ≤ 12
  day : 1 ≤ dt.day ∧ dt.day ≤ daysIn dt.year dt.month
  hour : dt.hour < 24
  minute : dt.minute < 60
  second : dt.second < 60
  micro : dt.micro < 1000000
  off : ∀ o, dt.off = some o → -1440 < o ∧ o < 1440

theorem alt2_dig (p : Nat → Nat → Bool) {a b : Nat} (ha : a < 10) (hb : b < 10) (r : List Char) :
    alt2 p (dig a :: dig b :: r) = if p a b then [(a * 10 + b, r)] else [] := by
  simp [alt2, dv_dig ha, dv_dig hb]

theorem seqMatch_head {f : List Char → List (Nat × List Char)} {fs} {s r r' : List Char} {v : Nat}
    {vs : List Nat} {tl} (hf : f s = (v, r) :: tl) (hr : seqMatch fs r = some (vs, r')) :
    seqMatch (f :: fs) s = some (v :: vs, r') := by
  simp [seqMatch, hf, hr]

theorem reYear4_pad {y : Nat} (h : y < 10000) (r : List Char) : reYear4 (pad4 y ++ r) = [(y, r)] := by
  obtain ⟨a, b, c, d, ha, hb, hc, hd, rfl, e⟩ := pad4_digits h
  simp only [e, List.cons_append, List.nil_append, reYear4, dv_dig ha, dv_dig hb, dv_dig hc, dv_dig hd]

/-- the POSIX window puts a two-digit year back into 1969..2068 -/
theorem year_window {y : Nat} (h : 1969 ≤ y ∧ y ≤ 2068) :
    (if y % 100 ≤ 68 then 2000 + y % 100 else 1900 + y % 100) = y := by
  split <;> omega

theorem reYear2_pad {y : Nat} (h : 1969 ≤ y ∧ y ≤ 2068) (r : List Char) :
    reYear2 (pad2 (y % 100) ++ r) = [(y, r)] := by
  obtain ⟨a, b, ha, hb, e1, e⟩ := pad2_digits (Nat.mod_lt y (by decide : 0 < 100))
  simp only [e, List.cons_append, List.nil_append, reYear2, alt2_dig _ ha hb, if_true, List.map, e1,
    year_window h]

/-- In an alternation tried on a zero-padded field, a two-digit alternative either yields the field or is
    passed over; so the field heads the matches as soon as its digits cannot fail every such alternative. -/
theorem alt2_dig_head (p : Nat → Nat → Bool) {a b : Nat} (ha : a < 10) (hb : b < 10) {r : List Char}
    {rest : List (Nat × List Char)} (hr : p a b = false → ∃ tl, rest = (a * 10 + b, r) :: tl) :
    ∃ tl, alt2 p (dig a :: dig b :: r) ++ rest = (a * 10 + b, r) :: tl := by
  rw [alt2_dig p ha hb]
  cases hp : p a b with
  | true => exact ⟨rest, rfl⟩
  | false => exact hr hp

theorem reMonth_pad {m : Nat} (h : 1 ≤ m ∧ m ≤ 12) (r : List Char) :
    ∃ tl, reMonth (pad2 m ++ r) = (m, r) :: tl := by
  obtain ⟨a, b, ha, hb, rfl, e⟩ := pad2_digits (by omega : m < 100)
  simp only [e, List.cons_append, List.nil_append, reMonth, List.append_assoc]
  refine alt2_dig_head _ ha hb fun h1 => alt2_dig_head _ ha hb fun h2 => ?_
  simp at h1 h2
  omega

theorem reDay_pad {d : Nat} (h : 1 ≤ d ∧ d ≤ 31) (r : List Char) :
    ∃ tl, reDay (pad2 d ++ r) = (d, r) :: tl := by
  obtain ⟨a, b, ha, hb, rfl, e⟩ := pad2_digits (by omega : d < 100)
  simp only [e, List.cons_append, List.nil_append, reDay, List.append_assoc]
  refine alt2_dig_head _ ha hb fun h1 => alt2_dig_head _ ha hb fun h2 => alt2_dig_head _ ha hb fun h3 => ?_
  simp at h1 h2 h3
  omega

theorem reHour_pad {n : Nat} (h : n < 24) (r : List Char) :
    ∃ tl, reHour (pad2 n ++ r) = (n, r) :: tl := by
  obtain ⟨a, b, ha, hb, rfl, e⟩ := pad2_digits (by omega : n < 100)
  simp only [e, List.cons_append, List.nil_append, reHour, List.append_assoc]
  refine alt2_dig_head _ ha hb fun h1 => alt2_dig_head _ ha hb fun h2 => ?_
  simp at h1 h2
  omega

theorem reMinute_pad {n : Nat} (h : n < 60) (r : List Char) :
    ∃ tl, reMinute (pad2 n ++ r) = (n, r) :: tl := by
  obtain ⟨a, b, ha, hb, rfl, e⟩ := pad2_digits (by omega : n < 100)
  simp only [e, List.cons_append, List.nil_append, reMinute]
  refine alt2_dig_head _ ha hb fun h1 => ?_
  simp at h1
  omega

theorem reSecond_pad {n : Nat} (h : n < 60) (r : List Char) :
    ∃ tl, reSecond (pad2 n ++ r) = (n, r) :: tl := by
  obtain ⟨a, b, ha, hb, rfl, e⟩ := pad2_digits (by omega : n < 100)
  simp only [e, List.cons_append, List.nil_append, reSecond, List.append_assoc]
  refine alt2_dig_head _ ha hb fun h1 => alt2_dig_head _ ha hb fun h2 => ?_
  simp at h1 h2
  omega

theorem daysIn_le (y m : Nat) : daysIn y m ≤ 31 := by
  unfold daysIn; split
  · split <;> omega
  · split <;> omega

theorem ValidDT.day_le {dt : DT} (v : ValidDT dt) : dt.day ≤ 31 :=
  Nat.le_trans v.day.2 (daysIn_le _ _)

theorem ValidDT.fields_lt {dt : DT} (v : ValidDT dt) :
    dt.month < 100 ∧ dt.day < 100 ∧ dt.hour < 100 ∧ dt.minute < 100 ∧ dt.second < 100 :=
  ⟨Nat.lt_of_le_of_lt v.month.2 (by decide), Nat.lt_of_le_of_lt v.day_le (by decide), Nat.lt_trans v.hour (by decide),
    Nat.lt_trans v.minute (by decide), Nat.lt_trans v.second (by decide)⟩

theorem mdhms_assoc (dt : DT) :
    mdhms dt = pad2 dt.month ++ (pad2 dt.day ++ (pad2 dt.hour ++ (pad2 dt.minute ++ pad2 dt.second))) := by
  simp only [mdhms, List.append_assoc]

theorem seqMatch_mdhms {dt : DT} (v : ValidDT dt) :
    seqMatch [reMonth, reDay, reHour, reMinute, reSecond] (mdhms dt)
      = some ([dt.month, dt.day, dt.hour, dt.minute, dt.second], []) := by
  obtain ⟨t1, h1⟩ := reMonth_pad v.month (pad2 dt.day ++ (pad2 dt.hour ++ (pad2 dt.minute ++ pad2 dt.second)))
  obtain ⟨t2, h2⟩ := reDay_pad ⟨v.day.1, v.day_le⟩ (pad2 dt.hour ++ (pad2 dt.minute ++ pad2 dt.second))
  obtain ⟨t3, h3⟩ := reHour_pad v.hour (pad2 dt.minute ++ pad2 dt.second)
  obtain ⟨t4, h4⟩ := reMinute_pad v.minute (pad2 dt.second)
  obtain ⟨t5, h5⟩ := reSecond_pad v.second []
  rw [List.append_nil] at h5
  rw [mdhms_assoc]
  exact seqMatch_head h1 (seqMatch_head h2 (seqMatch_head h3 (seqMatch_head h4 (seqMatch_head h5 rfl))))

theorem validDate_of {dt : DT} (v : ValidDT dt) : validDate dt.year dt.month dt.day = true := by
  simp [validDate, v.year.1, v.year.2, v.month.1, v.month.2, v.day.1, v.day.2]

theorem strptime_mdhms {k : Kind} {Y : List Char} {dt : DT} (v : ValidDT dt)
    (hY : (if k.yearsDigits = 4 then reYear4 else reYear2) (Y ++ mdhms dt) = [(dt.year, mdhms dt)]) :
    strptime k (Y ++ mdhms dt) = some (dt.year, dt.month, dt.day, dt.hour, dt.minute, dt.second) := by
  have hs : dt.second ≤ 59 := Nat.le_of_lt_succ v.second
  simp only [strptime, seqMatch_head hY (seqMatch_mdhms v)]
  simp [validDate_of v, hs]

theorem splitOn1_append {c : Char} {a : List Char} (h : c ∉ a) (b : List Char) :
    splitOn1 c (a ++ c :: b) = (a, b) := by
  induction a with
  | nil => simp [splitOn1]
  | cons x r ih =>
    have hx : x ≠ c := fun e => h (e ▸ List.mem_cons_self)
    have hr : c ∉ r := fun m => h (List.mem_cons_of_mem _ m)
    simp [splitOn1, hx, ih hr]

theorem zoneSplit_Z (k : Kind) (body : List Char) : zoneSplit k (body ++ ['Z']) = .ok (body, some 0) := by
  simp [zoneSplit]

theorem getLast?_digits_ne_Z (body : List Char) (c : Char) {z : List Char} (hz : AllDig z) (hne : z ≠ []) :
    (body ++ c :: z).getLast? ≠ some 'Z' := by
  intro h
  rw [List.getLast?_append, List.getLast?_cons_of_ne_nil hne] at h
  cases hl : z.getLast? with
  | none => exact hne (List.getLast?_eq_none_iff.mp hl)
  | some x =>
    rw [hl, Option.some_or] at h
    exact hz.not_mem (by decide) (List.mem_of_getLast? (hl.trans h))

/-- The partition at the sign that both readers of a zone designator perform, on a text that ends in a sign
    and digits: which sign is there, and that the partition returns the two sides. -/
theorem sign_partition {body z : List Char} (hp : '+' ∉ body) (hm : '-' ∉ body) (hz : AllDig z) (plus : Bool) :
    decide ('+' ∈ body ++ (if plus then '+' else '-') :: z) = plus
      ∧ ('+' ∈ body ++ (if plus then '+' else '-') :: z ∨ '-' ∈ body ++ (if plus then '+' else '-') :: z)
      ∧ (if plus then splitOn1 '+' (body ++ (if plus then '+' else '-') :: z)
          else splitOn1 '-' (body ++ (if plus then '+' else '-') :: z)) = (body, z) := by
  cases plus with
  | true => simp [splitOn1_append hp]
  | false => simp [splitOn1_append hm, hp, hz.not_mem]

theorem zoneSplit_sign (k : Kind) {body z : List Char} (hp : '+' ∉ body) (hm : '-' ∉ body) (hz : AllDig z)
    (hlen : z.length = 4) {a b : Int} (ha : pyInt (z.take 2) = some a) (hb : pyInt (z.drop 2) = some b)
    (plus : Bool) :
    zoneSplit k (body ++ (if plus then '+' else '-') :: z)
      = .ok (body, some (if plus then a * 60 + b else -(a * 60 + b))) := by
  have hne : z ≠ [] := by intro e; rw [e] at hlen; cases hlen
  obtain ⟨e1, e2, e3⟩ := sign_partition hp hm hz plus
  unfold zoneSplit
  rw [if_neg (getLast?_digits_ne_Z body _ hz hne), if_pos e2.symm]
  simp only [e1, e3, hlen, Nat.reduceEqDiff, and_false, if_false, ne_eq, not_true_eq_false, ha, hb]

theorem length_pad2 {n : Nat} (h : n < 100) : (pad2 n).length = 2 := by
  rw [pad2_lt h]; rfl

theorem pyInt_pad2 {n : Nat} (h : n < 100) : pyInt (pad2 n) = some (n : Int) := by
  rw [pyInt_allDig (allDig_pad2 n) (by rw [pad2_lt h]; simp), digitsVal_pad2 h]; simp

theorem hhmm_digits {hh mm : Nat} (h1 : hh < 100) (h2 : mm < 100) :
    AllDig (pad2 hh ++ pad2 mm) ∧ (pad2 hh ++ pad2 mm).length = 4
      ∧ (pad2 hh ++ pad2 mm).take 2 = pad2 hh ∧ (pad2 hh ++ pad2 mm).drop 2 = pad2 mm :=
  ⟨(allDig_pad2 hh).append (allDig_pad2 mm), by rw [List.length_append, length_pad2 h1, length_pad2 h2],
    List.take_left' (length_pad2 h1), List.drop_left' (length_pad2 h1)⟩

theorem zoneText_cases {off : Option Int} (ho : ∀ o, off = some o → -1440 < o ∧ o < 1440) :
    (zoneText off = ['Z'] ∧ off.getD 0 = 0) ∨
      ∃ (plus : Bool) (hh mm : Nat), hh < 24 ∧ mm < 60
        ∧ zoneText off = (if plus then '+' else '-') :: (pad2 hh ++ pad2 mm)
        ∧ off.getD 0 = if plus then (hh : Int) * 60 + mm else -((hh : Int) * 60 + mm) := by
  cases off with
  | none => exact .inl ⟨rfl, rfl⟩
  | some o =>
    have hb := ho o rfl
    by_cases h0 : o = 0
    · exact .inl ⟨by simp [zoneText, h0], by simp [h0]⟩
    · have hh : o.natAbs / 60 < 24 := by omega
      have hmm : o.natAbs % 60 < 60 := Nat.mod_lt _ (by decide)
      by_cases hneg : o < 0
      · exact .inr ⟨false, _, _, hh, hmm, by simp [zoneText, h0, hneg], by simp; omega⟩
      · exact .inr ⟨true, _, _, hh, hmm, by simp [zoneText, h0, hneg], by simp; omega⟩

/-- the zone designator `fromDateTime` writes is read back as the same offset (naive and zero: `Z`) -/
theorem zoneSplit_zoneText (k : Kind) {body : List Char} (hp : '+' ∉ body) (hm : '-' ∉ body)
    {off : Option Int} (ho : ∀ o, off = some o → -1440 < o ∧ o < 1440) :
    zoneSplit k (body ++ zoneText off) = .ok (body, some (off.getD 0)) := by
  rcases zoneText_cases ho with ⟨e, h0⟩ | ⟨plus, hh, mm, h1, h2, e, h0⟩
  · rw [e, h0]; exact zoneSplit_Z k body
  · obtain ⟨hz, hl, ht, hd⟩ := hhmm_digits (by omega : hh < 100) (by omega : mm < 100)
    rw [e, h0]
    exact zoneSplit_sign k hp hm hz hl (by rw [ht]; exact pyInt_pad2 (by omega)) (by rw [hd]; exact pyInt_pad2 (by omega))
      plus

theorem fracSplit_dot {main : List Char} (hm : AllDig main) (n : Nat) :
    fracSplit (main ++ '.' :: dec n) = .ok (main, Int.ofNat n * 1000) := by
  have hin : '.' ∈ main ++ '.' :: dec n := by simp
  have hnd : '.' ∉ main := hm.not_mem (by decide)
  simp only [fracSplit, hin, true_or, if_true, splitOn1_append hnd,
    pyInt_allDig (allDig_dec n) (dec_ne_nil n), digitsVal_dec]

theorem fracSplit_none {main : List Char} (hm : AllDig main) : fracSplit main = .ok (main, 0) := by
  have h1 : '.' ∉ main := hm.not_mem (by decide)
  have h2 : ',' ∉ main := hm.not_mem (by decide)
  simp [fracSplit, h1, h2]

theorem allDig_mdhms (dt : DT) : AllDig (mdhms dt) :=
  ((((allDig_pad2 _).append (allDig_pad2 _)).append (allDig_pad2 _)).append (allDig_pad2 _)).append (allDig_pad2 _)

theorem length_mdhms {dt : DT} (v : ValidDT dt) : (mdhms dt).length = 10 := by
  obtain ⟨h1, h2, h3, h4, h5⟩ := v.fields_lt
  simp only [mdhms, List.length_append, length_pad2 h1, length_pad2 h2, length_pad2 h3, length_pad2 h4, length_pad2 h5]

theorem padMain_full {k : Kind} {main : List Char} (h : main.length = k.yearsDigits + 10) : padMain k main = main := by
  simp [padMain, h]

/-- `asDateTime` on a text ending in the zone designator `fromDateTime` writes, given what `fracSplit`,
    `padMain` and `strptime` make of the rest -/
theorem asDateTime_parts {k : Kind} {text main : List Char} {dt : DT} (v : ValidDT dt)
    (hp : '+' ∉ text) (hm : '-' ∉ text) (hf : fracSplit text = .ok (main, (dt.micro : Int)))
    (hlen : main.length = k.yearsDigits + 10)
    (hs : strptime k main = some (dt.year, dt.month, dt.day, dt.hour, dt.minute, dt.second)) :
    asDateTime k (text ++ zoneText dt.off) = .ok { dt with off := some (dt.off.getD 0) } := by
  have h1 : (0 : Int) ≤ dt.micro ∧ (dt.micro : Int) < 1000000 := by have := v.micro; omega
  rw [asDateTime, zoneSplit_zoneText k hp hm v.off]
  simp only [hf, padMain_full hlen, hs, if_pos h1, Int.toNat_natCast]

theorem not_mem_body {c : Char} (hc : c.toNat < 48 ∨ 57 < c.toNat) (hdot : c ≠ '.') {main : List Char}
    (hm : AllDig main) (n : Nat) : c ∉ main ++ '.' :: dec n := by
  intro h
  rcases List.mem_append.mp h with h | h
  · exact hm.not_mem hc h
  · rcases List.mem_cons.mp h with h | h
    · exact hdot h
    · exact (allDig_dec n).not_mem hc h

theorem fromDateTime_gt (dt : DT) :
    fromDateTime gt dt = ((pad4 dt.year ++ mdhms dt) ++ '.' :: dec (dt.micro / 1000)) ++ zoneText dt.off := by
  simp [fromDateTime, gt]

theorem fromDateTime_utc (dt : DT) :
    fromDateTime utc dt = (pad2 (dt.year % 100) ++ mdhms dt) ++ zoneText dt.off := by
  simp [fromDateTime, utc]

theorem asDateTime_fromDateTime_gt {dt : DT} (v : ValidDT dt) (hms : dt.micro % 1000 = 0) :
    asDateTime gt (fromDateTime gt dt) = .ok { dt with off := some (dt.off.getD 0) } := by
  have hy : dt.year < 10000 := Nat.lt_succ_of_le v.year.2
  have hmain : AllDig (pad4 dt.year ++ mdhms dt) := (allDig_pad4 _).append (allDig_mdhms dt)
  have hf : fracSplit ((pad4 dt.year ++ mdhms dt) ++ '.' :: dec (dt.micro / 1000))
      = .ok (pad4 dt.year ++ mdhms dt, (dt.micro : Int)) := by
    rw [fracSplit_dot hmain]; congr 2; simp only [Int.ofNat_eq_natCast]; omega
  rw [fromDateTime_gt]
  exact asDateTime_parts v (not_mem_body (by decide) (by decide) hmain _) (not_mem_body (by decide) (by decide) hmain _)
    hf (by rw [List.length_append, length_mdhms v, pad4_lt hy]; rfl) (strptime_mdhms v (reYear4_pad hy _))

theorem asDateTime_fromDateTime_utc {dt : DT} (v : ValidDT dt) (hy : 1969 ≤ dt.year ∧ dt.year ≤ 2068)
    (hms : dt.micro = 0) :
    asDateTime utc (fromDateTime utc dt) = .ok { dt with off := some (dt.off.getD 0) } := by
  have hmain : AllDig (pad2 (dt.year % 100) ++ mdhms dt) := (allDig_pad2 _).append (allDig_mdhms dt)
  rw [fromDateTime_utc]
  exact asDateTime_parts v (hmain.not_mem (by decide)) (hmain.not_mem (by decide))
    (by rw [fracSplit_none hmain, hms]; rfl)
    (by rw [List.length_append, length_mdhms v, length_pad2 (Nat.mod_lt _ (by decide))]; rfl)
    (strptime_mdhms v (reYear2_pad hy _))

end Asn1.Time
