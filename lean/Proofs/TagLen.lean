/-
  Proofs.TagLen — identifier and length octets: decode ∘ encode = id with an arbitrary tail preserved,
  for every class, form and tag number in ℕ and every length the encoder accepts (it refuses only those
  of more than 126 octets).
-/
import Asn1.Tag
import Proofs.Digits

namespace Asn1

/-- position of the class in the canonical order; the class bits are this number in bits 8-7 -/
def clsRank : TagClass → Nat
  | .universal => 0 | .application => 1 | .context => 2 | .priv => 3

theorem TagClass.bits_rank (c : TagClass) : c.bits = 64 * clsRank c := by cases c <;> rfl

theorem clsRank_lt (c : TagClass) : clsRank c < 4 := by cases c <;> decide

theorem TagClass.ofBits_bits (c : TagClass) (x : Nat) (hx : x < 64) :
    TagClass.ofBits (c.bits + x) = c := by
  rw [TagClass.ofBits, c.bits_rank, Nat.mul_add_div (by decide), Nat.div_eq_of_lt hx, Nat.add_zero]
  cases c <;> rfl

/-- the class of an octet is its bits 8-7 -/
theorem TagClass.bits_ofBits (n : Nat) : (TagClass.ofBits n).bits = 64 * (n / 64 % 4) := by
  have h := Nat.mod_lt (n / 64) (by decide : 0 < 4)
  unfold TagClass.ofBits
  generalize n / 64 % 4 = r at h ⊢
  revert r
  decide

theorem decodeTag_lead {c : TagClass} {k : Bool} {m : Nat} (hm : m < 32) (r : Bytes) :
    decodeTag (UInt8.ofNat (c.bits + (if k then 0x20 else 0) + m) :: r) =
      if m = 31 then
        match decodeTagNum 0 r with
        | .ok (num, r') => .ok (⟨c, k, num⟩, r')
        | .error e => .error e
      else .ok (⟨c, k, m⟩, r) := by
  have hq := clsRank_lt c
  have hk := k.toNat_lt
  have hkk : (if k then 0x20 else 0) = 32 * k.toNat := by cases k <;> rfl
  -- the octet as a number with `m` below 32: `% 32` is `m`, `/ 32 % 2` the form bit, `/ 64` the class
  have hn : c.bits + (if k then 0x20 else 0) + m = 32 * (2 * clsRank c + k.toNat) + m := by
    rw [c.bits_rank, hkk]; omega
  have hcl : TagClass.ofBits (c.bits + (if k then 0x20 else 0) + m) = c := by
    rw [Nat.add_assoc, hkk]; exact c.ofBits_bits _ (by omega)
  rw [decodeTag, toNat_ofNat_lt _ (by rw [hn]; omega), hcl, hn, Nat.mul_add_mod, Nat.mod_eq_of_lt hm,
    Nat.mul_add_div (by decide), Nat.div_eq_of_lt hm, Nat.add_zero, Nat.mul_add_mod, Nat.mod_eq_of_lt hk]
  cases k <;> rfl

theorem decodeTagNum_digits {d : Nat} (hd : d < 128) {ds : List Nat} (hds : ∀ x ∈ ds, x < 128)
    (acc : Nat) (r : Bytes) :
    decodeTagNum acc (natsToBytes (ds.map (· + 0x80)) ++ UInt8.ofNat d :: r)
      = .ok (ds.foldl (fun a x => a * 128 + x) acc * 128 + d, r) :=
  contLoop decodeTagNum (fun a r => .ok (a, r))
    (fun _ _ _ h => by rw [decodeTagNum, if_pos h, Nat.mod_eq_of_lt h])
    (fun _ _ _ h => by rw [decodeTagNum, if_neg h]) hd r ds acc hds

theorem decodeTag_encodeTag (t : Tag) (ic : Bool) (r : Bytes) :
    decodeTag (encodeTag t ic ++ r) = .ok (⟨t.cls, t.constructed || ic, t.num⟩, r) := by
  rw [encodeTag]
  by_cases hlt : t.num < 31
  · rw [if_pos hlt, List.singleton_append, decodeTag_lead (by omega), if_neg (by omega)]
  · have hne : t.num ≠ 0 := by omega
    rw [if_neg hlt, List.cons_append, decodeTag_lead (by omega), if_pos rfl, cont_be128 _ hne,
      List.append_assoc, List.singleton_append,
      decodeTagNum_digits (Nat.mod_lt _ (by decide)) (beDigits_lt 126 _) 0,
      show (be128 (t.num / 128)).foldl (fun a x => a * 128 + x) 0 = t.num / 128 from ofBe_be 126 _,
      Nat.div_add_mod']

theorem encodeLength_cases {n : Nat} {l : Bytes} (h : encodeLength n = some l) :
    n < 128 ∧ l = [UInt8.ofNat n] ∨
    128 ≤ n ∧ (be256 n).length ≤ 126 ∧ l = UInt8.ofNat (0x80 + (be256 n).length) :: natsToBytes (be256 n) := by
  unfold encodeLength at h
  by_cases hs : n < 0x80
  · rw [if_pos hs] at h; cases h; exact .inl ⟨hs, rfl⟩
  · rw [if_neg hs] at h
    by_cases hl : (be256 n).length > 126
    · rw [if_pos hl] at h; cases h
    · rw [if_neg hl] at h; cases h; exact .inr ⟨Nat.le_of_not_lt hs, Nat.le_of_not_lt hl, rfl⟩

theorem decodeLength_long (ds r : Bytes) (h0 : 0 < ds.length) (h126 : ds.length ≤ 126) :
    decodeLength (UInt8.ofNat (0x80 + ds.length) :: (ds ++ r)) = .ok (.definite (bytesToNat ds), r) := by
  rw [decodeLength, toNat_ofNat_lt _ (by omega)]
  simp only
  rw [if_neg (by omega), if_neg (by omega), Nat.add_mod_left, Nat.mod_eq_of_lt (by omega),
    if_pos (by rw [List.length_append]; omega), List.take_left' rfl, List.drop_left' rfl]

theorem decodeLength_encodeLength (n : Nat) (l : Bytes) (h : encodeLength n = some l) (r : Bytes) :
    decodeLength (l ++ r) = .ok (.definite n, r) := by
  rcases encodeLength_cases h with ⟨hs, rfl⟩ | ⟨hs, hl, rfl⟩
  · rw [List.singleton_append, decodeLength, toNat_ofNat_lt n (by omega)]
    exact if_pos hs
  · have hlen := natsToBytes_length (be256 n)
    have := decodeLength_long (natsToBytes (be256 n)) r
      (by rw [hlen]; exact beDigits_length_pos 254 n (by omega)) (by rw [hlen]; exact hl)
    rwa [hlen, bytesToNat_natsToBytes_be256] at this

/-- what the encoder refuses: only lengths needing more than 126 octets (≥ 256^126) -/
theorem encodeLength_isSome_iff (n : Nat) :
    (encodeLength n).isSome ↔ (be256 n).length ≤ 126 ∨ n < 128 := by
  unfold encodeLength
  by_cases hs : n < 0x80
  · rw [if_pos hs]; exact ⟨fun _ => Or.inr hs, fun _ => rfl⟩
  · rw [if_neg hs]
    by_cases hl : (be256 n).length > 126
    · rw [if_pos hl]; exact ⟨nofun, fun h => by omega⟩
    · rw [if_neg hl]; exact ⟨fun _ => Or.inl (by omega), fun _ => rfl⟩

theorem encodeLength_isSome (n : Nat) (h : (be256 n).length ≤ 126) : (encodeLength n).isSome :=
  (encodeLength_isSome_iff n).mpr (Or.inl h)

theorem encodeLength_ne_nil (n : Nat) (l : Bytes) (h : encodeLength n = some l) : l ≠ [] := by
  rcases encodeLength_cases h with ⟨-, rfl⟩ | ⟨-, -, rfl⟩
  · exact List.cons_ne_nil _ _
  · exact List.cons_ne_nil _ _

theorem encodeTag_ne_nil (t : Tag) (ic : Bool) : encodeTag t ic ≠ [] := by
  unfold encodeTag
  by_cases h : t.num < 31 <;> simp [h]

end Asn1
