/-
  Proofs.Kernels — the translated source (Asn1/GenKernels.lean, regenerated from /repo on every run by
  gen/py2lean.py) computes what the hand-written model computes, for every argument.
  A change to one of these functions in /repo changes the generated definition; these proofs are then
  re-checked against what the code says now.
-/
import Proofs.KernelBase
import Asn1.Encoder
import Proofs.X690Prim

namespace Asn1.Kernels
open Py

theorem encodeLength_loop1_spec {m fuel : Nat} {sub : Py.Tup} (h : m < fuel) :
    GenK.encodeLength_loop1 fuel sub (m : Int) = .ok (ints (be256 m) ++ sub, 0) := by
  have := digitLoop 254 id GenK.encodeLength_loop1 (fun _ _ => rfl)
    (fun f acc m hm => by
      simp only [GenK.encodeLength_loop1, truthy_nat, hm, band_255, shr_8, ne_eq, not_false_eq_true,
        decide_true, if_true, id])
    m fuel sub h
  rwa [List.map_id] at this

/-- the continuation octets of a base-128 number: its digits with the top bit set -/
theorem bytesInts_be128_cont (n : Nat) :
    bytesInts (natsToBytes ((be128 n).map (· + 0x80))) = ints ((be128 n).map (· + 0x80)) :=
  bytesInts_natsToBytes _ fun d hd => by
    obtain ⟨x, hx, rfl⟩ := List.mem_map.mp hd
    have := beDigits_lt 126 n x hx; omega

/-- for every answer of the encoder model that is octets or a refusal: `encLen`, `wrapTags`, `finishItem`, `allOk` -/
def liftLen : Except Err Bytes → Py.M Py.Tup
  | .ok b => .ok (bytesInts b)
  | .error _ => .error (.lib "PyAsn1Error")

/-- **`AbstractItemEncoder.encodeLength` as it is in the source computes the model's `encLen`**, for
    every length, mode and `supportIndefLenMode` flag (including the refusal beyond 126 length octets) -/
theorem encodeLength_kernel (indefOk : Bool) (n : Nat) (defMode : Bool) :
    GenK.encodeLength indefOk (n : Int) defMode = liftLen (encLen indefOk n defMode) := by
  unfold GenK.encodeLength encLen
  by_cases h1 : (!defMode && indefOk) = true
  · simp only [h1, if_true]; rfl
  · simp only [h1, Bool.false_eq_true, if_false, Asn1.encodeLength, lt_lit]
    by_cases h2 : n < 128
    · simp only [h2, decide_true, if_true, liftLen, bytesInts, List.map, toNat_ofNat_lt n (by omega)]
      rfl
    · simp only [h2, decide_false, Bool.false_eq_true, if_false, bind, Except.bind, Int.toNat_natCast,
        encodeLength_loop1_spec (Nat.lt_succ_self n), List.append_nil]
      rw [show Py.len (ints (be256 n)) = (((be256 n).length : Nat) : Int) from len_map _ _]
      simp only [gt_iff_lt, lit_lt]
      by_cases h3 : 126 < (be256 n).length
      · simp only [h3, decide_true, if_true]; rfl
      · simp only [h3, decide_false, Bool.false_eq_true, if_false, liftLen, pure, Except.pure,
          bor_128 _ (show (be256 n).length < 128 by omega), bytesInts_cons, ← bytesInts_be256]
        rw [Nat.add_comm, toNat_ofNat_lt _ (by omega)]
        rfl

theorem encodeLength_kernel_of_some (indefOk : Bool) {n : Nat} {l : Bytes} (hl : Asn1.encodeLength n = some l) :
    GenK.encodeLength indefOk (n : Int) true = .ok (bytesInts l) := by
  rw [encodeLength_kernel]
  simp [encLen, hl, liftLen]

theorem encodeTag_loop1_spec {m fuel : Nat} {sub : Py.Tup} (h : m < fuel) :
    GenK.encodeTag_loop1 fuel sub (m : Int) = .ok (ints ((be128 m).map (· + 0x80)) ++ sub, 0) :=
  digitLoop 126 (· + 0x80) GenK.encodeTag_loop1 (fun _ _ => rfl)
    (fun f acc m hm => by
      simp only [GenK.encodeTag_loop1, truthy_nat, hm, band_127, shr_7, ne_eq, not_false_eq_true,
        bor_128 _ (Nat.mod_lt m (by decide : 0 < 128)), decide_true, if_true])
    m fuel sub h

/-- the three integers pyasn1's `Tag` object unpacks to -/
def tagTriple (t : Tag) : Py.Tup :=
  [(t.cls.bits : Int), ((if t.constructed then 0x20 else 0 : Nat) : Int), (t.num : Int)]

/-- the first identifier octet before the tag number goes in: class and format bits, `| 0x20` when
    the encoding is constructed -/
theorem first_octet_eq (c : TagClass) (k ic : Bool) :
    (if ic then Py.bor (Py.bor (c.bits : Int) ((if k then 0x20 else 0 : Nat) : Int)) 32
     else Py.bor (c.bits : Int) ((if k then 0x20 else 0 : Nat) : Int))
      = ((c.bits + (if k || ic then 0x20 else 0) : Nat) : Int) := by
  cases c <;> cases k <;> cases ic <;> exact congrArg Int.ofNat (by decide)

/-- … and its low five bits are free for the tag number -/
theorem first_mul32 (c : TagClass) (b : Bool) :
    (c.bits + (if b then 0x20 else 0)) % 2 ^ 5 = 0 ∧ c.bits + (if b then 0x20 else 0) < 256 := by
  cases c <;> cases b <;> decide

/-- **`AbstractItemEncoder.encodeTag` as it is in the source computes the model's identifier octets**,
    for every class, format, tag number and `isConstructed` -/
theorem encodeTag_kernel (t : Tag) (ic : Bool) :
    GenK.encodeTag (tagTriple t) ic = .ok (bytesInts (Asn1.encodeTag t ic)) := by
  obtain ⟨h32, h256⟩ := first_mul32 t.cls (t.constructed || ic)
  unfold GenK.encodeTag tagTriple Asn1.encodeTag
  simp only [bind, Except.bind, pure, Except.pure, ite_ok, first_octet_eq, lt_lit]
  by_cases h31 : t.num < 31
  · simp only [h31, decide_true, if_true, bytesInts, List.map, bor_low _ _ 5 h32 (show t.num < 2 ^ 5 by omega)]
    rw [toNat_ofNat_lt _ (by omega)]
  · simp only [h31, decide_false, Bool.false_eq_true, if_false, band_127, shr_7, Int.toNat_natCast,
      encodeTag_loop1_spec (Nat.lt_succ_self _), beDigits_pos 126 t.num (by omega),
      List.dropLast_concat, List.getLastD_concat, bytesInts_cons, bytesInts_append, bytesInts_be128_cont]
    show Except.ok ([Py.bor _ ((31 : Nat) : Int)] ++ _) = _
    rw [bor_low _ 31 5 h32 (by decide), toNat_ofNat_lt _ (by omega)]
    simp only [bytesInts, natsToBytes, List.map_cons, List.map_nil, List.cons_append, List.nil_append]
    rw [toNat_ofNat_lt _ (by omega)]

theorem oidEncode_loop2_spec {m fuel : Nat} {sub : Py.Tup} (h : m < fuel) :
    GenK.oidEncode_loop2 fuel sub (m : Int) = .ok (ints ((be128 m).map (· + 0x80)) ++ sub, 0) :=
  digitLoop 126 (· + 0x80) GenK.oidEncode_loop2 (fun _ _ => rfl)
    (fun f acc m hm => by
      simp only [GenK.oidEncode_loop2, truthy_nat, hm, band_127, shr_7, ne_eq, not_false_eq_true,
        bor_128 _ (Nat.mod_lt m (by decide : 0 < 128)), decide_true, if_true])
    m fuel sub h

theorem bytesInts_encodeArc (n : Nat) :
    bytesInts (encodeArc n) =
      if n < 128 then [(n : Int)]
      else ints ((be128 (n / 128)).map (· + 0x80)) ++ [((n % 128 : Nat) : Int)] := by
  unfold encodeArc
  by_cases h : n < 128
  · simp only [h, if_true, bytesInts, List.map]
    rw [toNat_ofNat_lt n (by omega)]
  · simp only [h, if_false, beDigits_pos 126 n (by omega), List.dropLast_concat, List.getLastD_concat,
      bytesInts_append, bytesInts_be128_cont]
    rw [bytesInts_natsToBytes [n % 128] (fun d hd => by simp at hd; omega)]
    rfl

/-- the `for subOid in oid` loop: every arc packed base 128 -/
theorem oidEncode_loop1_spec (c : Py.Tup) : ∀ (l : List Nat) (octets : Py.Tup),
    GenK.oidEncode_loop1 c (ints l) octets = .ok (octets ++ bytesInts (l.flatMap encodeArc))
  | [], octets => by simp [GenK.oidEncode_loop1, ints, bytesInts]; rfl
  | n :: rest, octets => by
    have ih := oidEncode_loop1_spec c rest
    simp only [ints, List.map_cons] at ih ⊢
    unfold GenK.oidEncode_loop1
    simp only [List.flatMap_cons, bytesInts_append, bytesInts_encodeArc, Int.ofNat_eq_natCast, le_lit, gt_iff_lt,
      lit_lt, Int.natCast_nonneg, decide_true, Bool.true_and]
    by_cases h : n < 128
    · simp only [show n ≤ 127 by omega, h, decide_true, if_true, bind, Except.bind, pure, Except.pure, ih,
        List.append_assoc]
    · simp only [show ¬ n ≤ 127 by omega, show 127 < n by omega, h, decide_true, decide_false, Bool.false_eq_true,
        if_false, if_true, bind, Except.bind, pure, Except.pure, band_127, shr_7, Int.toNat_natCast,
        oidEncode_loop2_spec (Nat.lt_succ_self _), ih, List.append_assoc]

/-- for `oidToContent`: `encodeValue` returns the triple `(octets, isConstructed=False, isOctets=False)` -/
def liftOid : Option Bytes → Py.M (Py.Tup × Bool × Bool)
  | some b => .ok (bytesInts b, false, false)
  | none => .error (.lib "PyAsn1Error")

/-- **`ObjectIdentifierEncoder.encodeValue` as it is in the source computes the model's
    `oidToContent`** for every tuple of (non-negative) arcs: the first two arcs folded into one, every
    sub-identifier packed base 128, the same refusals ("Short OID", "Impossible first/second arcs") -/
theorem oidEncode_kernel (arcs : List Nat) :
    GenK.oidEncode (ints arcs) = liftOid (oidToContent arcs) := by
  match arcs with
  | [] => rfl
  | [a] => rfl
  | first :: second :: rest =>
    -- the loop on the arcs that are left once the first two are folded into `h`
    have hl : ∀ h : Nat, GenK.oidEncode_loop1 ((h : Int) :: ints rest) ((h : Int) :: ints rest) [] =
        .ok (bytesInts ((h :: rest).flatMap encodeArc)) := fun h =>
      (oidEncode_loop1_spec _ (h :: rest) []).trans (by rw [List.nil_append])
    have h40 : GenK.oidEncode_loop1 (((second : Int) + 40) :: ints rest) (((second : Int) + 40) :: ints rest) [] = _ :=
      hl (second + 40)
    have h80 : GenK.oidEncode_loop1 (((second : Int) + 80) :: ints rest) (((second : Int) + 80) :: ints rest) [] = _ :=
      hl (second + 80)
    have hi0 : Py.idx (ints (first :: second :: rest)) 0 = .ok (first : Int) := rfl
    have hi1 : Py.idx (ints (first :: second :: rest)) 1 = .ok (second : Int) := rfl
    have hsl : Py.sliceFrom (ints (first :: second :: rest)) 2 = ints rest := rfl
    unfold GenK.oidEncode oidToContent
    simp only [hi0, hi1, hsl, bind, Except.bind, pure, Except.pure, tryCatch_ok, Int.natCast_nonneg, decide_true,
      Bool.true_and, le_lit, eq_lit]
    -- the table of X.690 8.19.4, read the same way on both sides
    by_cases h39 : second ≤ 39
    · -- second arc up to 39: first arcs 0, 1, 2 add 0, 40, 80 to it; a first arc above 2 is refused
      rcases first with _ | _ | _ | k <;> simp [h39, hl, h40, h80, liftOid, throw_eq]
    · -- second arc beyond 39: only under first arc 2, which adds 80; every other first arc is refused
      rcases first with _ | _ | _ | k <;> simp [h39, h80, liftOid, throw_eq]

theorem natToBE_concat (bs : Bytes) (b : UInt8) :
    Py.natToBE (bs.length + 1) (bytesToNat bs * 256 + b.toNat) = Py.natToBE bs.length (bytesToNat bs) ++ [(b.toNat : Int)] := by
  have hb : b.toNat < 256 := UInt8.toNat_lt b
  show Py.natToBE bs.length ((bytesToNat bs * 256 + b.toNat) / 256) ++
    [Int.ofNat ((bytesToNat bs * 256 + b.toNat) % 256)] = _
  rw [Nat.mul_comm, Nat.mul_add_div (by decide), Nat.mul_add_mod, Nat.div_eq_of_lt hb, Nat.mod_eq_of_lt hb,
    Nat.add_zero]
  rfl

theorem natToBE_bytes : ∀ (n : Nat) (bs : Bytes), bs.length = n → Py.natToBE n (bytesToNat bs) = bytesInts bs
  | 0, bs, h => by
    have : bs = [] := List.eq_nil_of_length_eq_zero h
    subst this; rfl
  | n + 1, bs, h => by
    rcases List.eq_nil_or_concat bs with rfl | ⟨l, b, rfl⟩
    · simp at h
    · simp only [List.concat_eq_append, List.length_append, List.length_singleton, Nat.add_right_cancel_iff] at h
      rw [List.concat_eq_append, Asn1.bytesToNat_concat, ← h, natToBE_concat, h, natToBE_bytes n l h]
      simp [bytesInts]

theorem half_pow (j : Nat) : ((2 ^ (8 * j + 7) : Nat) : Int) = 128 * 256 ^ j :=
  (Int.natCast_pow 2 (8 * j + 7)).trans (two_pow_half j)

/-- the number of bits: `a < 2^b`, and `2^(b-1) ≤ a` unless `a = 0` -/
def nbits (a : Nat) : Nat := Nat.log2 a + (if a = 0 then 0 else 1)

theorem lt_pow_nbits (a : Nat) : a < 2 ^ nbits a := by
  unfold nbits
  by_cases h : a = 0
  · subst h; decide
  · simp only [h, if_false]; exact Nat.lt_log2_self

theorem pow_nbits_le (a : Nat) (h : a ≠ 0) : 2 ^ (nbits a - 1) ≤ a := by
  unfold nbits
  simp only [h, if_false, Nat.add_sub_cancel]
  exact Nat.log2_self_le h

theorem nbits_div8 (a j : Nat) (hfit : a < 2 ^ (8 * j + 7))
    (hmin : j = 0 ∨ ∃ i, j = i + 1 ∧ 2 ^ (8 * i + 7) ≤ a) : nbits a / 8 = j := by
  have hup : nbits a ≤ 8 * j + 7 := by
    by_cases h0 : a = 0
    · subst h0; simp [nbits]
    · have h1 := pow_nbits_le a h0
      have : ¬ (8 * j + 7 ≤ nbits a - 1) := fun hc =>
        absurd (Nat.lt_of_lt_of_le hfit (Nat.le_trans (Nat.pow_le_pow_right (by decide) hc) h1)) (Nat.lt_irrefl _)
      omega
  rcases hmin with rfl | ⟨i, rfl, hi⟩
  · omega
  · have h2 := lt_pow_nbits a
    have : ¬ (nbits a ≤ 8 * i + 7) := fun hc =>
      absurd (Nat.lt_of_lt_of_le (Nat.lt_of_le_of_lt hi h2) (Nat.pow_le_pow_right (by decide) hc)) (Nat.lt_irrefl _)
    omega

theorem bitLength_nat (a : Nat) : Py.bitLength (a : Int) = ((nbits a : Nat) : Int) := by
  unfold Py.bitLength nbits
  by_cases h : a = 0
  · subst h; rfl
  · simp [h]

/-- `z` fits `j + 1` octets in two's complement exactly when the number whose bit length `to_bytes` takes
    (`~z` for a negative `z`) is below `2^(8j+7)` -/
theorem fits_iff (z : Int) (j : Nat) : Asn1.Fits z j ↔ (if z < 0 then Py.inv z else z) < 128 * 256 ^ j := by
  have := Asn1.pow256_pos j
  unfold Asn1.Fits Py.inv
  split <;> omega

theorem fdiv_nat (n k : Nat) : Py.fdiv (n : Int) (k : Int) = ((n / k : Nat) : Int) :=
  Int.fdiv_eq_ediv_of_nonneg _ (Int.natCast_nonneg k)

theorem fmod_nat (n k : Nat) : Py.fmod (n : Int) (k : Int) = ((n % k : Nat) : Int) :=
  Int.fmod_eq_emod_of_nonneg _ (Int.natCast_nonneg k)

/-- the octet count `to_bytes` derives from a bit length `n`: a bit more for the sign when `n` is a multiple
    of 8, then `length // 8 + (length % 8 and 1 or 0)` - one octet more than `n / 8` either way -/
theorem octetCount_eq (n : Nat) (L : Int)
    (hL : L = if decide (Py.fmod (n : Int) 8 = 0) = true then (n : Int) + 1 else n) :
    Py.fdiv L 8 + Py.orI (Py.andI (Py.fmod L 8) 1) 0 = ((n / 8 + 1 : Nat) : Int) := by
  have hup : ∀ m : Nat, m % 8 ≠ 0 →
      Py.fdiv (m : Int) 8 + Py.orI (Py.andI (Py.fmod (m : Int) 8) 1) 0 = ((m / 8 + 1 : Nat) : Int) := fun m hm => by
    rw [show (8 : Int) = ((8 : Nat) : Int) from rfl, fdiv_nat, fmod_nat]
    obtain ⟨r, hr⟩ := Nat.exists_eq_succ_of_ne_zero hm
    rw [hr]; rfl
  have h8' : Py.fmod (n : Int) 8 = ((n % 8 : Nat) : Int) := fmod_nat n 8
  subst hL
  by_cases h8 : n % 8 = 0
  · rw [if_pos (decide_eq_true (by rw [h8', h8]; rfl)), show ((n : Int) + 1) = ((n + 1 : Nat) : Int) from rfl,
      hup (n + 1) (by omega)]
    congr 1; omega
  · rw [if_neg (by rw [h8', decide_eq_true_eq]; omega)]
    exact hup n h8

/-- `int.to_bytes(length, 'big', signed=True)` on a value that fits: the `j + 1` octets whose unsigned value is the
    residue of `z` modulo `256^(j+1)` -/
theorem toBytes_fits (z : Int) (j : Nat) (bs : Bytes) (hlen : bs.length = j + 1) (hfit : Asn1.Fits z j)
    (hval : (bytesToNat bs : Int) = z % (256 * 256 ^ j)) :
    Py.toBytes z ((j + 1 : Nat) : Int) true = .ok (bytesInts bs) := by
  have h2 : (2 : Int) ^ (8 * (j + 1)) = 256 * 256 ^ j := by
    rw [Asn1.two_pow_full, Int.pow_succ]; omega
  have hrange : -(2 : Int) ^ (8 * (j + 1)) ≤ 2 * z ∧ 2 * z < (2 : Int) ^ (8 * (j + 1)) := by
    unfold Asn1.Fits at hfit
    omega
  unfold Py.toBytes
  simp only [Int.toNat_natCast, if_true, hrange, and_self, true_or, pure, Except.pure]
  rw [← natToBE_bytes (j + 1) bs hlen, h2]
  show Except.ok (Py.natToBE (j + 1) (z % (256 * 256 ^ j)).toNat) = _
  rw [← hval, Int.toNat_natCast]

/-- the width `to_bytes` derives from the bit length is the least width that fits: `a` is the number whose bits are
    counted (`z`, or `~z` for a negative `z`) -/
theorem nbits_fits (z : Int) (j a : Nat) (ha : (if z < 0 then Py.inv z else z) = (a : Int)) (hfit : Asn1.Fits z j)
    (hmin : j = 0 ∨ ∃ i, j = i + 1 ∧ ¬ Asn1.Fits z i) : nbits a / 8 = j := by
  apply nbits_div8
  · have := (fits_iff z j).mp hfit
    have := half_pow j
    omega
  · rcases hmin with rfl | ⟨i, rfl, hni⟩
    · exact Or.inl rfl
    · refine Or.inr ⟨i, rfl, ?_⟩
      have := Int.not_lt.mp (mt (fits_iff z i).mpr hni)
      have := half_pow i
      omega

/-- **`to_bytes(value, signed=True)` as it is in the source** (`pyasn1/compat/integer.py`, the branch taken on
    CPython 3) **computes the model's `intToBytes`**: the two's complement octets of every integer in the
    fewest octets (what `IntegerEncoder` writes for non-zero values, and `[0]` for zero) -/
theorem toBytes_kernel (z : Int) : GenK.toBytes z true 0 = .ok (bytesInts (intToBytes z)) := by
  obtain ⟨j, hlen, hfit, hmin, hval⟩ := Asn1.intToBytes_spec z
  -- the non-negative number whose bit length is taken: `z`, or `~z` for a negative `z`
  have hnn : 0 ≤ (if z < 0 then Py.inv z else z) := by unfold Py.inv; split <;> omega
  obtain ⟨a, ha⟩ := Int.eq_ofNat_of_zero_le hnn
  have hae : (if (true && decide (z < 0)) then Py.inv z else z) = (a : Int) := by
    simpa only [Bool.true_and, decide_eq_true_eq] using ha
  unfold GenK.toBytes
  rw [hae, bitLength_nat, show Py.max ((nbits a : Nat) : Int) 0 = ((nbits a : Nat) : Int) from if_neg (by omega)]
  simp only [Bool.true_and, bind, Except.bind, pure, Except.pure, ite_ok]
  rw [octetCount_eq (nbits a) _ rfl, nbits_fits z j a ha hfit hmin, toBytes_fits z j _ hlen hfit hval]

/-- for the model's `decodeArcs` once the arcs `oid` are collected -/
def liftArcs (len : Nat) (oid : List Nat) : Res (List Nat) → Py.M (Int × Py.Tup)
  | .ok arcs => .ok ((len : Int), ints (oid ++ arcs))
  | .error .underrun => .error (.lib "SubstrateUnderrunError")
  | .error _ => .error (.lib "PyAsn1Error")

theorem liftArcs_map (len : Nat) (oid : List Nat) (a : Nat) (r : Res (List Nat)) :
    liftArcs len oid (r.map (a :: ·)) = liftArcs len (oid ++ [a]) r := by
  cases r with
  | ok arcs => simp [liftArcs, Except.map]
  | error e => cases e <;> rfl

/-- The translated inner loop, entered with the octet `b` in hand and `i` octets read, then any `K` that goes on
    from the end of a sub-identifier as the model goes on to the next arc: together they are the model inside a
    sub-identifier (`decodeArcs (some s)`), running out of octets included. -/
theorem oidDecode_loop2_then (bs : Bytes) (oidT : Py.Tup) (oid : List Nat) (K : Int × Int × Int → Py.M (Int × Py.Tup))
    (i₀ : Nat) (hK : ∀ s' nb' i' : Nat, i₀ ≤ i' → i' ≤ bs.length →
      K ((s' : Int), (nb' : Int), (i' : Int)) =
        liftArcs bs.length (oid ++ [s' * 128 + nb']) (decodeArcs none (bs.drop i'))) :
    ∀ (f s : Nat) (b : UInt8) (i : Nat), i₀ ≤ i → i ≤ bs.length → bs.length - i < f →
    (GenK.oidDecode_loop2 (bs.length : Int) (bytesInts bs) oidT f (s : Int) (b.toNat : Int) (i : Int) >>= K) =
      liftArcs bs.length oid (decodeArcs (some s) (b :: bs.drop i))
  | 0, _, _, _, _, _, hf => by omega
  | f + 1, s, b, i, h0, hi, hf => by
    rw [GenK.oidDecode_loop2, decodeArcs]
    simp only [ge_iff_le, lit_le, Int.ofNat_le, shl_7, band_127, ← Int.natCast_add]
    by_cases hn : b.toNat < 128
    · rw [if_neg (by simpa using hn), if_pos hn, liftArcs_map]
      exact hK s b.toNat i h0 hi
    · rw [if_pos (by simpa using hn), if_neg hn]
      by_cases hend : bs.length ≤ i
      · rw [if_pos (decide_eq_true hend), List.drop_eq_nil_of_le hend]; rfl
      · have hlt : i < bs.length := by omega
        rw [if_neg (by simpa using hend), List.drop_eq_getElem_cons hlt]
        simp only [bind, Except.bind, idx_bytes bs i hlt]
        exact oidDecode_loop2_then bs oidT oid K i₀ hK f (s * 128 + b.toNat % 128) bs[i] (i + 1) (by omega) hlt (by omega)

theorem oidDecode_loop1_spec (bs : Bytes) : ∀ (f i : Nat) (oid : List Nat), i ≤ bs.length → bs.length - i < f →
    GenK.oidDecode_loop1 (bs.length : Int) (bytesInts bs) f (i : Int) (ints oid) =
      liftArcs bs.length oid (decodeArcs none (bs.drop i))
  | 0, _, _, _, hf => by omega
  | f + 1, i, oid, hi, hf => by
    -- the loop from a later index with one more arc collected, as the recursive calls reach it
    have ih : ∀ (a i' : Nat), i + 1 ≤ i' → i' ≤ bs.length →
        GenK.oidDecode_loop1 (bs.length : Int) (bytesInts bs) f (i' : Int) (ints oid ++ [(a : Int)]) =
          liftArcs bs.length (oid ++ [a]) (decodeArcs none (bs.drop i')) := fun a i' h h' =>
      oidDecode_loop1_spec bs f i' (oid ++ [a]) h' (by omega) ▸ by rw [ints_append]; rfl
    rw [GenK.oidDecode_loop1]
    by_cases hend : i < bs.length
    · rw [if_pos (by simpa using hend), idx_bytes bs i hend, ok_bind, List.drop_eq_getElem_cons hend, decodeArcs]
      generalize bs[i] = b
      simp only [lt_lit, gt_iff_lt, lit_lt, eq_lit, show (i : Int) + 1 = ((i + 1 : Nat) : Int) from rfl]
      by_cases h1 : b.toNat < 128
      · rw [if_pos (decide_eq_true h1), if_pos h1, pure_bind, liftArcs_map]
        exact ih b.toNat (i + 1) (Nat.le_refl _) hend
      · rw [if_neg (by simpa using h1), if_neg h1]
        by_cases h2 : b.toNat = 128
        · rw [if_neg (by simpa using (by omega : ¬ 128 < b.toNat)), if_pos (decide_eq_true h2), if_pos h2]; rfl
        · rw [if_pos (decide_eq_true (by omega : 128 < b.toNat)), if_neg h2]
          simp only [bind_assoc, pure_bind]
          -- inside a sub-identifier: the model's accumulator `b % 128` is the code's `(0, b)`
          have h0 : decodeArcs (some (b.toNat % 128)) (bs.drop (i + 1)) = decodeArcs (some 0) (b :: bs.drop (i + 1)) := by
            simp only [decodeArcs, h1, if_false, Nat.zero_mul, Nat.zero_add]
          rw [h0]
          exact oidDecode_loop2_then bs (ints oid) oid _ (i + 1)
            (fun s' nb' i' h h' => by rw [shl_7, ← Int.natCast_add]; exact ih _ i' h h')
            _ 0 b (i + 1) (Nat.le_refl _) hend (by omega)
    · obtain rfl : i = bs.length := by omega
      rw [if_neg (by simp), List.drop_length, decodeArcs, liftArcs, List.append_nil]
      rfl

/-- an arc put in front of the arcs that follow: the only way `decodeArcs` answers, apart from `[]` at the end -/
theorem map_cons_ne_nil {r : Res (List Nat)} {a : Nat} {arcs : List Nat} (h : r.map (a :: ·) = .ok arcs) : arcs ≠ [] := by
  cases r with
  | ok l => cases h; exact List.cons_ne_nil _ _
  | error e => cases h

theorem decodeArcs_some_ne_nil : ∀ (l : Bytes) (acc : Nat) (arcs : List Nat), decodeArcs (some acc) l = .ok arcs → arcs ≠ []
  | [], _, _, h => by cases h
  | b :: rest, acc, arcs, h => by
    simp only [decodeArcs] at h
    split at h
    · exact map_cons_ne_nil h
    · exact decodeArcs_some_ne_nil rest _ arcs h

theorem decodeArcs_none_ne_nil (b : UInt8) (rest : Bytes) (arcs : List Nat) (h : decodeArcs none (b :: rest) = .ok arcs) :
    arcs ≠ [] := by
  simp only [decodeArcs] at h
  split at h
  · exact map_cons_ne_nil h
  · split at h
    · cases h
    · exact decodeArcs_some_ne_nil rest _ arcs h

/-- for `oidFromContent` -/
def liftOidDec : Res (List Nat) → Py.M Py.Tup
  | .ok arcs => .ok (ints arcs)
  | .error .underrun => .error (.lib "SubstrateUnderrunError")
  | .error _ => .error (.lib "PyAsn1Error")

/-- **the OBJECT IDENTIFIER payload decoder as it is in the source** (the computation of
    `ObjectIdentifierPayloadDecoder.valueDecoder` between `octs2ints` and the final `yield`) **computes
    the model's `oidFromContent`** for every non-empty contents: same arcs, the same refusal of a leading
    0x80 octet, `SubstrateUnderrunError` exactly when the last sub-identifier is unfinished -/
theorem oidDecode_kernel (bs : Bytes) (hne : bs ≠ []) :
    GenK.oidDecode (bytesInts bs) = liftOidDec (oidFromContent bs) := by
  have hl : GenK.oidDecode_loop1 (bs.length : Int) (bytesInts bs) (bs.length + 1) 0 [] =
      liftArcs bs.length [] (decodeArcs none bs) :=
    oidDecode_loop1_spec bs (bs.length + 1) 0 [] (Nat.zero_le _) (by omega)
  unfold GenK.oidDecode
  simp only [bind, Except.bind, len_bytes, Int.toNat_natCast, hl]
  obtain ⟨b, rest, rfl⟩ := List.exists_cons_of_ne_nil hne
  simp only [oidFromContent]
  cases hd : decodeArcs none (b :: rest) with
  | error e => cases e <;> rfl
  | ok arcs =>
    obtain ⟨h, tl, rfl⟩ := List.exists_cons_of_ne_nil (decodeArcs_none_ne_nil b rest arcs hd)
    have hidx : Py.idx (ints (h :: tl)) 0 = .ok (h : Int) := rfl
    have hsl : Py.sliceFrom (ints (h :: tl)) 1 = ints tl := rfl
    simp only [liftArcs, List.nil_append, hidx, hsl, pure, Except.pure, Nat.zero_le, decide_true,
      Bool.true_and, le_lit, lit_le, ge_iff_le]
    -- the first sub-identifier is 40·X + Y: X = 0 up to 39, X = 1 up to 79, X = 2 beyond
    by_cases c1 : h ≤ 39
    · simp only [c1, decide_true, if_true]; rfl
    · by_cases c2 : h ≤ 79
      · simp only [c1, c2, show 40 ≤ h by omega, decide_true, decide_false, Bool.false_eq_true, if_false,
          if_true, Bool.and_self, show (h : Int) - 40 = ((h - 40 : Nat) : Int) by omega]
        rfl
      · simp only [c1, c2, show 40 ≤ h by omega, show 80 ≤ h by omega, decide_true, decide_false,
          Bool.false_eq_true, if_false, if_true, Bool.and_false, show (h : Int) - 80 = ((h - 80 : Nat) : Int) by omega]
        rfl

end Asn1.Kernels
