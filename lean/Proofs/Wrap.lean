/-
  Proofs.Wrap — the header loop of the encoder (`wrapTags`) seen at the level of TLV trees:
  each tag of the tag set becomes one well-formed element around the previous one.
-/
import Asn1.Encoder
import Proofs.Parse

namespace Asn1

/-- the tag an identifier written by `encodeTag t isCons` is read back as -/
def wireTag (t : Tag) (isCons : Bool) : Tag := ⟨t.cls, t.constructed || isCons, t.num⟩

theorem hdrOk_def (t : Tag) (isCons : Bool) (n : Nat) (l : Bytes) (h : encodeLength n = some l) :
    HdrOk (encodeTag t isCons ++ l) (wireTag t isCons) (.definite n) :=
  ⟨encodeTag t isCons, l, rfl, fun r => decodeTag_encodeTag t isCons r,
   fun r => decodeLength_encodeLength n l h r⟩

theorem hdrOk_indef (t : Tag) (isCons : Bool) :
    HdrOk (encodeTag t isCons ++ [0x80]) (wireTag t isCons) .indefinite :=
  ⟨encodeTag t isCons, [0x80], rfl, fun r => decodeTag_encodeTag t isCons r, fun r => by
    simp [decodeLength]⟩

def primNode (t : Tag) (c : Bytes) : Except Err TLV :=
  match encodeLength c.length with
  | some l => .ok (.prim (encodeTag t false ++ l) (wireTag t false) c)
  | none => .error .refused

def consNode (t : Tag) (indef : Bool) (cs : List TLV) : Except Err TLV :=
  if indef then .ok (.cons (encodeTag t true ++ [0x80]) (wireTag t true) true cs)
  else
    match encodeLength (serList cs).length with
    | some l => .ok (.cons (encodeTag t true ++ l) (wireTag t true) false cs)
    | none => .error .refused

/-- the outer (non-first) tags, innermost first, at tree level -/
def wrapRest (defMode : Bool) : List Tag → TLV → Except Err TLV
  | [], x => .ok x
  | t :: ts, x =>
    match consNode t (!defMode) [x] with
    | .ok y => wrapRest defMode ts y
    | .error e => .error e

theorem primNode_ok {t : Tag} {c : Bytes} {n : TLV} (h : primNode t c = .ok n) :
    ∃ l, encodeLength c.length = some l ∧ n = .prim (encodeTag t false ++ l) (wireTag t false) c := by
  unfold primNode at h
  cases hl : encodeLength c.length with
  | none => rw [hl] at h; cases h
  | some l => rw [hl] at h; exact ⟨l, rfl, (Except.ok.inj h).symm⟩

theorem consNode_ok {t : Tag} {indef : Bool} {cs : List TLV} {n : TLV} (h : consNode t indef cs = .ok n) :
    ∃ l, n = .cons (encodeTag t true ++ l) (wireTag t true) indef cs ∧
      if indef then l = [0x80] else encodeLength (serList cs).length = some l := by
  unfold consNode at h
  cases indef with
  | true => exact ⟨[0x80], (Except.ok.inj h).symm, rfl⟩
  | false =>
    simp only [Bool.false_eq_true, if_false] at h ⊢
    cases hl : encodeLength (serList cs).length with
    | none => rw [hl] at h; cases h
    | some l => rw [hl] at h; exact ⟨l, (Except.ok.inj h).symm, rfl⟩

theorem primNode_ser (t : Tag) (c : Bytes) (n : TLV) (h : primNode t c = .ok n) :
    ∃ l, encodeLength c.length = some l ∧ n.ser = encodeTag t false ++ l ++ c := by
  obtain ⟨l, hl, rfl⟩ := primNode_ok h
  exact ⟨l, hl, rfl⟩

theorem primNode_wf (t : Tag) (c : Bytes) (n : TLV) (ht : t.constructed = false)
    (h : primNode t c = .ok n) : n.WF := by
  obtain ⟨l, hl, rfl⟩ := primNode_ok h
  exact ⟨hdrOk_def t false c.length l hl, by simp [wireTag, ht]⟩

theorem consNode_wf (t : Tag) (indef : Bool) (cs : List TLV) (n : TLV) (hw : WFs cs)
    (hne : indef = true → NoEooL cs) (h : consNode t indef cs = .ok n) : n.WF := by
  obtain ⟨l, rfl, hl⟩ := consNode_ok h
  cases indef with
  | true => rw [if_pos rfl] at hl; subst hl; exact ⟨hdrOk_indef t true, by simp [wireTag], hw, hne rfl⟩
  | false => exact ⟨hdrOk_def t true _ l hl, by simp [wireTag], hw⟩

theorem consNode_tag (t : Tag) (indef : Bool) (cs : List TLV) (n : TLV)
    (h : consNode t indef cs = .ok n) : n.tag = wireTag t true ∧ ∃ hd, n = .cons hd (wireTag t true) indef cs := by
  obtain ⟨l, rfl, _⟩ := consNode_ok h
  exact ⟨rfl, _, rfl⟩

theorem consNode_ser (t : Tag) (indef : Bool) (cs : List TLV) (n : TLV) (h : consNode t indef cs = .ok n) :
    n.ser = (if indef then encodeTag t true ++ [0x80] ++ serList cs ++ [0, 0]
             else encodeTag t true ++ (encodeLength (serList cs).length).getD [] ++ serList cs) := by
  obtain ⟨l, rfl, hl⟩ := consNode_ok h
  cases indef with
  | true => rw [if_pos rfl] at hl; subst hl; simp [TLV.ser, eooBytes]
  | false => simp only [Bool.false_eq_true, if_false] at hl ⊢; simp [TLV.ser, hl]

theorem decodeTag_zero {rest r : Bytes} {tg : Tag} (h : decodeTag (0 :: rest) = .ok (tg, r)) :
    tg = ⟨.universal, false, 0⟩ := by
  simp only [decodeTag] at h
  have h0 : (0 : UInt8).toNat = 0 := rfl
  simp only [h0] at h
  simp [TagClass.ofBits] at h
  exact h.1.symm

theorem encodeTag_head_ne_zero (t : Tag) (ic : Bool) (h : t.cls ≠ .universal ∨ t.num ≠ 0 ∨ (t.constructed || ic) = true) :
    ∀ rest, encodeTag t ic ≠ 0 :: rest := by
  intro rest he
  have hd := decodeTag_encodeTag t ic []
  rw [List.append_nil, he] at hd
  have := decodeTag_zero hd
  simp only [Tag.mk.injEq] at this
  rcases h with h | h | h
  · exact h this.1
  · exact h this.2.2
  · simp [this.2.1] at h

theorem notEoo_of_tag (n : TLV) (hw : n.WF)
    (h : n.tag.cls ≠ .universal ∨ n.tag.num ≠ 0 ∨ n.tag.constructed = true) : NotEoo n.ser := by
  intro rest he
  -- the first octet of the serialisation is the first identifier octet
  have key : ∀ (hd : Bytes) (tg : Tag) (len : Len) (body : Bytes), HdrOk hd tg len →
      (tg.cls ≠ .universal ∨ tg.num ≠ 0 ∨ tg.constructed = true) → hd ++ body ≠ 0 :: 0 :: rest := by
    intro hd tg len body hk htg hcontra
    obtain ⟨tb, lb, rfl, ht, hl⟩ := hk
    have h1 := ht (lb ++ body)
    rw [← List.append_assoc, hcontra] at h1
    obtain rfl := decodeTag_zero h1
    simp at htg
  cases n with
  | prim hd tg c => exact key hd tg _ c hw.1 h he
  | cons hd tg i cs =>
    cases i with
    | true => exact key hd tg _ _ hw.1 h he
    | false => exact key hd tg _ _ hw.1 h he

theorem serList_single (x : TLV) : serList [x] = x.ser := by
  simp [serList]

/-- invariants of the header loop over the remaining tags: `P` is indexed by the tags around the element so far,
    outermost first -/
theorem wrapRest_inv {dm : Bool} {P : List Tag → TLV → Prop}
    (step : ∀ (t : Tag) (l : List Tag) (hd : Bytes) (z : TLV),
      consNode t (!dm) [z] = .ok (.cons hd (wireTag t true) (!dm) [z]) → P l z →
      P (t :: l) (.cons hd (wireTag t true) (!dm) [z])) :
    ∀ (ts : List Tag) (y x : TLV) (l : List Tag), wrapRest dm ts y = .ok x → P l y → P (ts.reverse ++ l) x
  | [], y, x, l, h, hp => by
      rw [wrapRest] at h
      cases h
      exact hp
  | t :: ts, y, x, l, h, hp => by
      rw [wrapRest] at h
      cases hy : consNode t (!dm) [y] with
      | error e => rw [hy] at h; cases h
      | ok y' =>
        rw [hy] at h
        obtain ⟨_, hd, rfl⟩ := consNode_tag t (!dm) [y] y' hy
        rw [List.reverse_cons, List.append_assoc]
        exact wrapRest_inv step ts _ x (t :: l) h (step t l hd y hy hp)

theorem wrapRest_wf {dm : Bool} {ts : List Tag} {y x : TLV} (h : wrapRest dm ts y = .ok x) (hw : y.WF)
    (hn : NotEoo y.ser) : x.WF ∧ NotEoo x.ser :=
  wrapRest_inv (P := fun _ z => z.WF ∧ NotEoo z.ser) (fun t _ _ z hz hp =>
    have hw' := consNode_wf t (!dm) [z] _ ⟨hp.1, trivial⟩ (fun _ => ⟨hp.2, trivial⟩) hz
    ⟨hw', notEoo_of_tag _ hw' (.inr (.inr (by simp [TLV.tag, wireTag])))⟩) ts y x [] h ⟨hw, hn⟩

theorem wrapRest_tag {dm : Bool} {t0 : Tag} {ts : List Tag} {y x : TLV} {ic : Bool}
    (h : wrapRest dm ts y = .ok x) (hy : y.tag = wireTag t0 ic) :
    ∃ tl ic', (t0 :: ts).getLast? = some tl ∧ x.tag = wireTag tl ic' := by
  obtain ⟨tl, ic', h1, h2⟩ := wrapRest_inv (P := fun l z => ∃ tl ic', l.head? = some tl ∧ z.tag = wireTag tl ic')
    (fun t _ _ _ _ _ => ⟨t, true, rfl, rfl⟩) ts y x [t0] h ⟨t0, ic, rfl, hy⟩
  exact ⟨tl, ic', by rw [← List.head?_reverse, List.reverse_cons]; exact h1, h2⟩

/-- one step of the header loop over constructed contents: at the base tag of a constructed type, or at any
    further tag -/
theorem wrapTags_step (indefOk defMode isCons first : Bool) (hf : (first && !isCons) = false)
    (hok : defMode = true ∨ indefOk = true) (t : Tag) (ts : List Tag)
    (ht : t.constructed = true ∨ isCons = true) (cs : List TLV) :
    wrapTags indefOk defMode isCons first (t :: ts) (serList cs) =
      match consNode t (!defMode) cs with
      | .ok y => wrapTags indefOk defMode isCons false ts y.ser
      | .error e => .error e := by
  have hte : encodeTag t isCons = encodeTag t true := by
    rcases ht with ht | rfl
    · simp [encodeTag, ht]
    · rfl
  simp only [wrapTags, hf, Bool.false_eq_true, if_false, hte]
  cases defMode with
  | true =>
    simp only [encLen, Bool.not_true, Bool.false_and, Bool.false_eq_true, if_false, consNode]
    cases encodeLength (serList cs).length <;> simp [TLV.ser]
  | false =>
    obtain rfl : indefOk = true := hok.resolve_left (by simp)
    simp [encLen, consNode, TLV.ser, eooBytes, wrapTags.eooBytesE]

theorem wrapTags_rest (indefOk defMode isCons : Bool) (hok : defMode = true ∨ indefOk = true) :
    ∀ (ts : List Tag) (x : TLV), (∀ t ∈ ts, t.constructed = true) →
      wrapTags indefOk defMode isCons false ts x.ser = (wrapRest defMode ts x).map TLV.ser
  | [] => fun x _ => rfl
  | t :: ts => fun x hc => by
      rw [← serList_single x, wrapTags_step _ _ _ _ rfl hok t ts (Or.inl (hc t (by simp))), wrapRest]
      cases consNode t (!defMode) [x] with
      | error e => rfl
      | ok y => exact wrapTags_rest indefOk defMode isCons hok ts y (fun t' h' => hc t' (by simp [h']))

def wrapAll (defMode : Bool) (first : Except Err TLV) (ts : List Tag) : Except Err TLV :=
  match first with
  | .ok x => wrapRest defMode ts x
  | .error e => .error e

theorem wrapTags_prim (indefOk defMode : Bool) (t0 : Tag) (ts : List Tag) (sub : Bytes)
    (hts : ∀ t ∈ ts, t.constructed = true)
    (hok : ts = [] ∨ defMode = true ∨ indefOk = true) :
    wrapTags indefOk defMode false true (t0 :: ts) sub
      = (wrapAll defMode (primNode t0 sub) ts).map TLV.ser := by
  simp only [wrapTags, Bool.not_false, Bool.and_self, if_true, encLen, Bool.not_true, Bool.false_and,
    Bool.false_eq_true, if_false, primNode, wrapAll]
  cases hl : encodeLength sub.length with
  | none => rfl
  | some l =>
    simp only [List.append_nil]
    rcases hok with rfl | h
    · simp [wrapTags, wrapRest, Except.map, TLV.ser]
    · rw [← wrapTags_rest indefOk defMode false h ts
        (.prim (encodeTag t0 false ++ l) (wireTag t0 false) sub) hts]
      simp [TLV.ser]

theorem wrapTags_cons (indefOk defMode : Bool) (t0 : Tag) (ts : List Tag) (cs : List TLV)
    (hts : ∀ t ∈ ts, t.constructed = true) (hok : defMode = true ∨ indefOk = true) :
    wrapTags indefOk defMode true true (t0 :: ts) (serList cs)
      = (wrapAll defMode (consNode t0 (!defMode) cs) ts).map TLV.ser := by
  rw [wrapTags_step _ _ _ _ rfl hok t0 ts (Or.inr rfl)]
  unfold wrapAll
  cases consNode t0 (!defMode) cs with
  | error e => rfl
  | ok y => exact wrapTags_rest indefOk defMode true hok ts y hts

end Asn1
