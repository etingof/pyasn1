/-
  Proofs.Canonical — the canonical encoders write ONE encoding per abstract value: two values that
  are the same abstract value (`VEq`: SET OF as a multiset, REAL as the number it denotes) get the same
  octets from an encoder that sorts SET OF (CER, DER).
-/
import Proofs.EncSpec
import Proofs.ContainerSort
import Proofs.RealRT
import Proofs.VEq

namespace Asn1

mutual
/-- no REAL and no SET OF inside: `VEq` is equality of values -/
def Ty.exact : Ty → Bool
  | .prim .real => false
  | .prim _ => true
  | .any => true
  | .seq fs => Fields.exact fs
  | .set fs => Fields.exact fs
  | .choice fs => Fields.exact fs
  | .seqOf t => t.exact
  | .setOf _ => false
  | .tagged _ _ _ t => t.exact
def Fields.exact : Fields → Bool
  | .nil => true
  | .cons _ t r => t.exact && Fields.exact r
end

mutual
/-- every DEFAULT member has an exact type (the encoders decide omission with `==` on the stored
    components — the recorded finding T11 is about the types this excludes) -/
def Ty.dfltExact : Ty → Bool
  | .seq fs => Fields.dfltExact fs
  | .set fs => Fields.dfltExact fs
  | .choice fs => Fields.dfltExact fs
  | .seqOf t => t.dfltExact
  | .setOf t => t.dfltExact
  | .tagged _ _ _ t => t.dfltExact
  | .prim _ => true
  | .any => true
def Fields.dfltExact : Fields → Bool
  | .nil => true
  | .cons (.dflt _) t r => t.exact && t.dfltExact && Fields.dfltExact r
  | .cons _ t r => t.dfltExact && Fields.dfltExact r
end

theorem all2_eq {t : Ty} (ih : ∀ a b, VEq t a b → a = b) : ∀ (as bs : List Val), All2 (fun a b => VEq t a b) as bs → as = bs
  | [], [] => fun _ => rfl
  | a :: as, b :: bs => fun h => by
    simp only [All2] at h
    rw [ih a b h.1, all2_eq ih as bs h.2]
  | [], _ :: _ => fun h => nomatch h
  | _ :: _, [] => fun h => nomatch h

mutual
theorem veq_exact : ∀ (t : Ty) (a b : Val), t.exact = true → VEq t a b → a = b
  | .tagged _ _ _ t => fun a b he h => veq_exact t a b he h
  | .prim p => fun a b he h => (veq_prim (by rintro rfl; cases he)).mp h
  | .any => fun a b _ h => h
  | .setOf _ => fun _ _ he _ => nomatch he
  | .seqOf t => fun a b he h => by
    rcases veq_seqOf h with rfl | ⟨as, bs, rfl, rfl, hl⟩
    · rfl
    · rw [all2_eq (fun x y hxy => veq_exact t x y he hxy) as bs hl]
  | .seq fs => fun a b he h => by
    rcases veq_seq h with rfl | ⟨as, bs, rfl, rfl, hf⟩
    · rfl
    · rw [veq_exactF fs as bs he hf]
  | .set fs => fun a b he h => by
    rcases veq_set h with rfl | ⟨as, bs, rfl, rfl, hf⟩
    · rfl
    · rw [veq_exactF fs as bs he hf]
  | .choice fs => fun a b he h => by
    rcases veq_choice h with rfl | ⟨i, x, y, rfl, rfl, ha⟩
    · rfl
    · rw [veq_exactAlt fs i x y he ha]
theorem veq_exactF : ∀ (fs : Fields) (as bs : List Val), Fields.exact fs = true → VEqFields fs as bs → as = bs
  | .nil, [], [] => fun _ _ => rfl
  | .cons _ t r, a :: as, b :: bs => fun he h => by
    have he := Bool.and_eq_true_iff.mp he
    rw [veq_exact t a b he.1 h.1, veq_exactF r as bs he.2 h.2]
  | .nil, _ :: _, _ => fun _ h => nomatch h
  | .nil, [], _ :: _ => fun _ h => nomatch h
  | .cons _ _ _, [], _ => fun _ h => nomatch h
  | .cons _ _ _, _ :: _, [] => fun _ h => nomatch h
theorem veq_exactAlt : ∀ (fs : Fields) (i : Nat) (a b : Val), Fields.exact fs = true → VEqAlt fs i a b → a = b
  | .nil, _ => fun _ _ _ h => nomatch h
  | .cons _ t _, 0 => fun a b he h => veq_exact t a b (Bool.and_eq_true_iff.mp he).1 h
  | .cons _ _ r, i + 1 => fun a b he h => veq_exactAlt r i a b (Bool.and_eq_true_iff.mp he).2 h
end

theorem skipField_veq (k : FKind) (t : Ty) (v v' : Val) (hk : ∀ d, k = .dflt d → t.exact = true) (h : VEq t v v') :
    skipField k v = skipField k v' := by
  cases k with
  | req => rw [skipField_req_eq, skipField_req_eq]
  | dflt d => rw [veq_exact t v v' (hk d rfl) h]
  | opt =>
    exact Bool.eq_iff_iff.mpr
      ((skipField_opt.trans (isAbsent_veq t v v' h)).trans skipField_opt.symm)

theorem effTags_const {t : Ty} (h : t.tags ≠ []) (v v' : Val) : effTags t v = effTags t v' := by
  rw [effTags_of_tags t v h, effTags_of_tags t v' h]

mutual
theorem effTags_veq : ∀ (t : Ty) (v v' : Val), VEq t v v' → effTags t v = effTags t v'
  | .tagged e c n t => fun v v' _ => effTags_const (tagged_tags_ne e c n t) v v'
  | .prim _ | .seq _ | .set _ | .seqOf _ | .setOf _ => fun v v' _ => effTags_const (by simp [Ty.tags]) v v'
  | .any => fun v v' h => by rw [show v = v' from h]
  | .choice fs => fun v v' h => by
    rcases veq_choice h with rfl | ⟨i, a, b, rfl, rfl, h2⟩
    · rfl
    · simp only [effTags, Ty.tags, List.isEmpty_nil, Bool.not_true, Bool.false_eq_true, if_false, Ty.base]
      exact effTags_veqAlt fs i a b h2
theorem effTags_veqAlt : ∀ (fs : Fields) (i : Nat) (a b : Val), VEqAlt fs i a b →
    (match fs.get? i with | some (_, ti) => effTags ti a | none => []) =
    (match fs.get? i with | some (_, ti) => effTags ti b | none => [])
  | .nil, _ => fun _ _ h => nomatch h
  | .cons _ t _, 0 => fun a b h => by
    simp only [Fields.get?]
    exact effTags_veq t a b h
  | .cons _ _ r, i + 1 => fun a b h => by
    simp only [Fields.get?]
    exact effTags_veqAlt r i a b h
end

theorem setKey_veq (ord : SetOrder) (t : Ty) (v v' : Val) (h : VEq t v v') : setKey ord t v = setKey ord t v' := by
  cases t with
  | choice fs =>
    cases ord <;> simp only [setKey]
    exact effTags_veq (.choice fs) v v' h
  | _ => cases ord <;> rfl

theorem realBinToContent_congr {m m' e e' : Int} (hm : m ≠ 0) (hm' : m' ≠ 0) (hs : m < 0 ↔ m' < 0)
    (hn : normOdd m.natAbs m.natAbs e = normOdd m'.natAbs m'.natAbs e') :
    realBinToContent m e = realBinToContent m' e' := by
  unfold realBinToContent
  simp only [hm, hm', if_false, hn, hs]

theorem realContent_realKey (a : RealVal) : realContent (realKey a) = realContent a := by
  cases a with
  | pinf => rfl
  | minf => rfl
  | fin m b e =>
    by_cases hm : m = 0
    · simp [realKey, realContent, hm]
    · by_cases hb : b = 2
      · subst hb
        have h0 : m.natAbs ≠ 0 := by omega
        have hodd := normOdd_odd m.natAbs m.natAbs e h0 (Nat.le_refl _)
        have hne := normOdd_ne_zero m.natAbs m.natAbs e h0
        simp only [realKey, realContent, hm, if_false, if_true]
        by_cases hneg : m < 0
        · simp only [hneg, if_true]
          have h1 : -((normOdd m.natAbs m.natAbs e).1 : Int) ≠ 0 := by omega
          rw [if_neg h1]
          exact realBinToContent_congr h1 hm (by omega)
            (by rw [Int.natAbs_neg, Int.natAbs_natCast, normOdd_of_odd _ _ _ hodd])
        · simp only [hneg, if_false]
          have h1 : ((normOdd m.natAbs m.natAbs e).1 : Int) ≠ 0 := by omega
          rw [if_neg h1]
          exact realBinToContent_congr h1 hm (by omega)
            (by rw [Int.natAbs_natCast, normOdd_of_odd _ _ _ hodd])
      · simp [realKey, hm, hb]

theorem real_content_veq (cfg : EncCfg) (o : EncOpts) (a b : RealVal) (hk : realKey a = realKey b) (r : Bytes × Bool)
    (h : encValue cfg o (.prim .real) (.real a) = .ok r) : encValue cfg o (.prim .real) (.real b) = .ok r := by
  rw [encValue_real] at h ⊢
  rw [← realContent_realKey b, ← hk, realContent_realKey a]
  exact h

theorem allOk_eq_ok {α} : ∀ (l : List (Except Err α)) (cs : List α), allOk l = .ok cs ↔ l = cs.map .ok
  | [], cs => by
    constructor
    · intro h; cases h; rfl
    · intro h; cases cs with
      | nil => rfl
      | cons _ _ => cases h
  | r :: rest, cs => by
    constructor
    · intro h
      obtain ⟨c, cs', rfl, hr, rfl⟩ := allOk_cons h
      rw [(allOk_eq_ok rest cs').mp hr]; rfl
    · intro h
      cases cs with
      | nil => cases h
      | cons c cs' =>
        obtain ⟨rfl, hrest⟩ := List.cons.inj h
        show (allOk rest).map (c :: ·) = _
        rw [(allOk_eq_ok rest cs').mpr hrest]; rfl

def okOf {α} : Except Err α → Option α
  | .ok a => some a
  | .error _ => none

theorem filterMap_okOf_map {α} (cs : List α) : (cs.map (Except.ok : α → Except Err α)).filterMap okOf = cs := by
  induction cs with
  | nil => rfl
  | cons c cs ih => simp [okOf, ih]

theorem perm_map_ok {α} (cs : List α) (m : List (Except Err α)) (p : (cs.map Except.ok).Perm m) :
    ∃ cs', m = cs'.map .ok ∧ cs.Perm cs' := by
  refine ⟨m.filterMap okOf, ?_, ?_⟩
  · have hall : ∀ x ∈ m, ∃ c, x = .ok c := by
      intro x hx
      have := p.symm.subset hx
      simp only [List.mem_map] at this
      obtain ⟨c, _, rfl⟩ := this
      exact ⟨c, rfl⟩
    clear p
    induction m with
    | nil => rfl
    | cons x m ih =>
      obtain ⟨c, rfl⟩ := hall x (by simp)
      simp only [List.filterMap_cons, okOf, List.map_cons, List.cons.injEq, true_and]
      exact ih (fun y hy => hall y (by simp [hy]))
  · have := p.filterMap okOf
    rwa [filterMap_okOf_map] at this

/-- serialisations of well-formed elements are never zero-paddings of one another: the parser reads each back
    from in front of its padding -/
theorem wf_padInj (l : List Bytes) (h : ∀ c ∈ l, ∃ x : TLV, c = x.ser ∧ x.WF) : PadInj l := by
  intro m a ha b hb e
  obtain ⟨x, rfl, hx⟩ := h a ha
  obtain ⟨y, rfl, hy⟩ := h b hb
  rw [padTo_eq, padTo_eq] at e
  have p1 := parseOne_ser {} x (List.replicate (m - x.ser.length) 0) hx (Or.inl rfl)
  have p2 := parseOne_ser {} y (List.replicate (m - y.ser.length) 0) hy (Or.inl rfl)
  rw [e, p2] at p1
  simp only [Except.ok.injEq, Prod.mk.injEq] at p1
  rw [p1.1]

section Core
variable (cfg : EncCfg) (dm : Bool) (mc : Nat)

mutual
/-- at every SET OF inside the value, each element's encoding is the serialisation of one well-formed
    element (what `encode_spec` establishes in the region; see `setOfOk_of_region`) -/
def SetOfOk : Ty → Val → Prop
  | .tagged _ _ _ t, v => SetOfOk t v
  | .seq fs, .seq vs => SetOfOkF fs vs
  | .set fs, .seq vs => SetOfOkF fs vs
  | .seqOf t, .seqOf vs => ∀ v ∈ vs, SetOfOk t v
  | .setOf t, .seqOf vs =>
    (∀ v ∈ vs, SetOfOk t v) ∧
    ∀ v ∈ vs, ∀ c, finishItem cfg (mkO dm mc false) t (encValue cfg (mkO dm mc false) t v) = .ok c →
      ∃ x : TLV, c = x.ser ∧ x.WF
  | .choice fs, .choice i v => SetOfOkAlt fs i v
  | _, _ => True
def SetOfOkF : Fields → List Val → Prop
  | .cons k t r, v :: vs => (skipField k v = false → SetOfOk t v) ∧ SetOfOkF r vs
  | _, _ => True
def SetOfOkAlt : Fields → Nat → Val → Prop
  | .nil, _, _ => True
  | .cons _ t _, 0, v => SetOfOk t v
  | .cons _ _ r, i + 1, v => SetOfOkAlt r i v
end

theorem item_veq {t : Ty} {v v' : Val} {f : Bool} {b : Bytes}
    (h : ∀ r, encValue cfg (mkO dm mc f) t v = .ok r → encValue cfg (mkO dm mc f) t v' = .ok r)
    (hb : finishItem cfg (mkO dm mc f) t (encValue cfg (mkO dm mc f) t v) = .ok b) :
    finishItem cfg (mkO dm mc f) t (encValue cfg (mkO dm mc f) t v') = .ok b := by
  cases hv : encValue cfg (mkO dm mc f) t v with
  | error e => rw [hv] at hb; simp [finishItem] at hb
  | ok r => rw [h r hv]; rw [hv] at hb; exact hb

theorem elems_veq (t : Ty) (g : Val → Except Err Bytes) (P : Val → Prop)
    (ih : ∀ a b, P a → VEq t a b → ∀ c, g a = .ok c → g b = .ok c) :
    ∀ (as bs : List Val) (cs : List Bytes), (∀ a ∈ as, P a) → All2 (fun a b => VEq t a b) as bs →
      as.map g = cs.map .ok → bs.map g = cs.map .ok
  | [], [], cs => fun _ _ h => h
  | a :: as, b :: bs, cs => fun hp hv h => by
    simp only [All2] at hv
    cases cs with
    | nil => simp at h
    | cons c cs =>
      simp only [List.map_cons, List.cons.injEq] at h ⊢
      exact ⟨ih a b (hp a (by simp)) hv.1 c h.1,
        elems_veq t g P ih as bs cs (fun x hx => hp x (by simp [hx])) hv.2 h.2⟩
  | [], _ :: _, _ => fun _ hv _ => nomatch hv
  | _ :: _, [], _ => fun _ hv _ => nomatch hv

theorem dfltExact_cons {k : FKind} {t : Ty} {r : Fields} (h : Fields.dfltExact (.cons k t r) = true) :
    (∀ d, k = .dflt d → t.exact = true) ∧ t.dfltExact = true ∧ Fields.dfltExact r = true := by
  cases k with
  | dflt d =>
    have h1 := Bool.and_eq_true_iff.mp h
    exact ⟨fun _ _ => (Bool.and_eq_true_iff.mp h1.1).1, (Bool.and_eq_true_iff.mp h1.1).2, h1.2⟩
  | _ => exact ⟨nofun, Bool.and_eq_true_iff.mp h⟩

mutual
theorem veq_value (hs : cfg.sortSetOf = true) : ∀ (t : Ty) (v v' : Val) (f : Bool) (r : Bytes × Bool),
    t.dfltExact = true → VEq t v v' → SetOfOk cfg dm mc t v →
    encValue cfg (mkO dm mc f) t v = .ok r → encValue cfg (mkO dm mc f) t v' = .ok r
  | .tagged _ _ _ t => fun v v' f r hd hv hk h => veq_value hs t v v' f r hd hv hk h
  | .prim p => fun v v' f r _ hv _ h => by
      by_cases hp : p = .real
      · subst hp
        rcases veq_real hv with rfl | ⟨a, b, rfl, rfl, hab⟩
        · exact h
        · exact real_content_veq cfg _ a b hab r h
      · rw [← (veq_prim hp).mp hv]; exact h
  | .any => fun v v' f r _ hv _ h => by
      rw [← show v = v' from hv]; exact h
  | .seq fs => fun v v' f r hd hv hk h => by
      rcases veq_seq hv with rfl | ⟨as, bs, rfl, rfl, hf⟩
      · exact h
      · dsimp only [encValue] at h ⊢
        exact Res.map_ok_of (veq_fields hs fs as bs f · hd hf hk) h
  | .set fs => fun v v' f r hd hv hk h => by
      rcases veq_set hv with rfl | ⟨as, bs, rfl, rfl, hf⟩
      · exact h
      · rw [encValue_set] at h ⊢
        by_cases ho : cfg.setOrder = .declared
        · rw [if_pos ho] at h ⊢
          exact Res.map_ok_of (veq_fields hs fs as bs f · hd hf hk) h
        · rw [if_neg ho] at h ⊢
          exact Res.map_ok_of (veq_setMembers hs fs as bs f cfg.setOrder · hd hf hk) h
  | .seqOf t => fun v v' f r hd hv hk h => by
      rcases veq_seqOf hv with rfl | ⟨as, bs, rfl, rfl, hl⟩
      · exact h
      · rw [encValue_seqOf] at h ⊢
        refine Res.map_ok_of (fun cs hcs => ?_) h
        exact (allOk_eq_ok _ cs).mpr (elems_veq t _ (fun a => SetOfOk cfg dm mc t a)
          (fun a b hpa hab c hca => item_veq cfg dm mc (veq_value hs t a b false · hd hab hpa) hca)
          as bs cs hk hl ((allOk_eq_ok _ cs).mp hcs))
  | .setOf t => fun v v' f r hd hv hk h => by
      rcases veq_setOf hv with rfl | ⟨as, bs, rfl, rfl, ms, hv1, hperm⟩
      · exact h
      · obtain ⟨hk1, hk2⟩ := hk
        dsimp only [encValue] at h ⊢
        obtain ⟨cs, hl, hr⟩ := Res.map_eq_ok.mp h
        have h1 := (allOk_eq_ok _ cs).mp hl
        -- the elements VEq-equal to those of `as`, in the same order, have the same encodings
        have h2 := elems_veq t _ (fun a => SetOfOk cfg dm mc t a)
          (fun a b hpa hab c hca => item_veq cfg dm mc (veq_value hs t a b false · hd hab hpa) hca)
          as ms cs hk1 hv1 h1
        -- `bs` is a permutation of them
        obtain ⟨cs', hm, hcp⟩ := perm_map_ok cs _ (h2 ▸ hperm.map _)
        rw [(allOk_eq_ok _ cs').mpr hm, ← hr]
        simp only [Except.map, hs, if_true]
        -- every chunk is the serialisation of a well-formed element: the padded key is injective
        have hinj : PadInj cs := wf_padInj cs fun c hc => by
          obtain ⟨a, ha, hca⟩ := List.mem_map.mp (h1 ▸ List.mem_map_of_mem (f := Except.ok) hc)
          exact hk2 a ha c hca
        rw [← sortSetOfChunks_perm hcp hinj]
  | .choice fs => fun v v' f r hd hv hk h => by
      rcases veq_choice hv with rfl | ⟨i, a, b, rfl, rfl, ha⟩
      · exact h
      · dsimp only [encValue] at h ⊢
        exact Res.map_ok_of (veq_alt hs fs i a b f · hd ha hk) h
theorem veq_fields (hs : cfg.sortSetOf = true) : ∀ (fs : Fields) (vs vs' : List Val) (f : Bool) (b : Bytes),
    Fields.dfltExact fs = true → VEqFields fs vs vs' → SetOfOkF cfg dm mc fs vs →
    encFields cfg (mkO dm mc f) fs vs = .ok b → encFields cfg (mkO dm mc f) fs vs' = .ok b
  | .nil, [], [] => fun _ _ _ _ _ h => h
  | .cons k t rest, v :: vs, v' :: vs' => fun f b hd hv hk h => by
      obtain ⟨hde, hdt, hdr⟩ := dfltExact_cons hd
      rw [encFields_cons_ok (mkO_member cfg dm mc f k)] at h ⊢
      rw [← skipField_veq k t v v' hde hv.1]
      rcases h with ⟨hs', h⟩ | ⟨hs', b1, b2, hb1, hb2, rfl⟩
      · exact .inl ⟨hs', veq_fields hs rest vs vs' f b hdr hv.2 hk.2 h⟩
      · exact .inr ⟨hs', b1, b2, item_veq cfg dm mc (veq_value hs t v v' _ · hdt hv.1 (hk.1 hs')) hb1,
          veq_fields hs rest vs vs' _ b2 hdr hv.2 hk.2 hb2, rfl⟩
  | .nil, _ :: _, _ => fun _ _ _ hv _ _ => nomatch hv
  | .nil, [], _ :: _ => fun _ _ _ hv _ _ => nomatch hv
  | .cons _ _ _, [], _ => fun _ _ _ hv _ _ => nomatch hv
  | .cons _ _ _, _ :: _, [] => fun _ _ _ hv _ _ => nomatch hv
theorem veq_setMembers (hs : cfg.sortSetOf = true) : ∀ (fs : Fields) (vs vs' : List Val) (f : Bool) (ord : SetOrder)
    (ms : List (TagSet × Bytes)),
    Fields.dfltExact fs = true → VEqFields fs vs vs' → SetOfOkF cfg dm mc fs vs →
    encSetMembers cfg (mkO dm mc f) ord fs vs = .ok ms → encSetMembers cfg (mkO dm mc f) ord fs vs' = .ok ms
  | .nil, [], [] => fun _ _ _ _ _ _ h => h
  | .cons k t rest, v :: vs, v' :: vs' => fun f ord ms hd hv hk h => by
      obtain ⟨hde, hdt, hdr⟩ := dfltExact_cons hd
      rw [encSetMembers_cons_ok] at h ⊢
      rw [← skipField_veq k t v v' hde hv.1, ← setKey_veq ord t v v' hv.1]
      rcases h with ⟨hs', h⟩ | ⟨hs', b1, ms2, hb1, hb2, rfl⟩
      · exact .inl ⟨hs', veq_setMembers hs rest vs vs' f ord ms hdr hv.2 hk.2 h⟩
      · exact .inr ⟨hs', b1, ms2, item_veq cfg dm mc (veq_value hs t v v' k.isOpt · hdt hv.1 (hk.1 hs')) hb1,
          veq_setMembers hs rest vs vs' f ord ms2 hdr hv.2 hk.2 hb2, rfl⟩
  | .nil, _ :: _, _ => fun _ _ _ _ hv _ _ => nomatch hv
  | .nil, [], _ :: _ => fun _ _ _ _ hv _ _ => nomatch hv
  | .cons _ _ _, [], _ => fun _ _ _ _ hv _ _ => nomatch hv
  | .cons _ _ _, _ :: _, [] => fun _ _ _ _ hv _ _ => nomatch hv
theorem veq_alt (hs : cfg.sortSetOf = true) : ∀ (fs : Fields) (i : Nat) (a b : Val) (f : Bool) (bb : Bytes),
    Fields.dfltExact fs = true → VEqAlt fs i a b → SetOfOkAlt cfg dm mc fs i a →
    encAlt cfg (mkO dm mc f) fs i a = .ok bb → encAlt cfg (mkO dm mc f) fs i b = .ok bb
  | .nil, _ => fun _ _ _ _ _ hv _ _ => nomatch hv
  | .cons _ t _, 0 => fun a b f _ hd hv hk h =>
      item_veq cfg dm mc (veq_value hs t a b f · (dfltExact_cons hd).2.1 hv hk) h
  | .cons _ _ rest, i + 1 => fun a b f bb hd hv hk h =>
      veq_alt hs rest i a b f bb (dfltExact_cons hd).2.2 hv hk h
end

end Core

section Region
variable (cfg : EncCfg) (pf : Profile) (dm : Bool) (mc : Nat) (hR : EncRegion cfg pf mc)
include hR

mutual
theorem setOfOk_of_region : ∀ (t : Ty) (v : Val), t.reg true cfg dm = true → t.WF = true → HasType t v = true →
    noE3 cfg.seqOmitEmpty t v = true → SetOfOk cfg dm mc t v
  | .tagged e c n t => fun v hr hw ht hn => setOfOk_of_region t v (reg_tagged hr) (wf_tagged hw) ht hn
  | .prim _ => fun _ _ _ _ _ => trivial
  | .any => fun _ _ _ _ _ => trivial
  | .seq fs => fun v hr hw ht hn => by
      obtain ⟨vs, rfl, hvs⟩ := hasType_seq ht
      simp only [Ty.WF, Bool.and_eq_true] at hw
      exact setOfOkF_of_region fs vs hr hw.1 hvs hn
  | .set fs => fun v hr hw ht hn => by
      obtain ⟨vs, rfl, hvs⟩ := hasType_set ht
      simp only [Ty.WF, Bool.and_eq_true] at hw
      exact setOfOkF_of_region fs vs hr hw.1 hvs hn
  | .seqOf t => fun v hr hw ht hn => by
      obtain ⟨vs, rfl, hvs⟩ := hasType_seqOf ht
      exact fun x hx => setOfOk_of_region t x hr hw (hvs x hx) (List.all_eq_true.mp hn x hx)
  | .setOf t => fun v hr hw ht hn => by
      obtain ⟨vs, rfl, hvs⟩ := hasType_setOf ht
      have hn := List.all_eq_true.mp hn
      refine ⟨fun x hx => setOfOk_of_region t x hr hw (hvs x hx) (hn x hx), fun x hx c hc => ?_⟩
      obtain ⟨y, hy, hyw, _⟩ := encode_spec cfg pf dm mc hR false rfl t x c hr hw (hvs x hx) (hn x hx) hc
      exact ⟨y, hy, hyw⟩
  | .choice fs => fun v hr hw ht hn => by
      obtain ⟨i, w, rfl, hiw⟩ := hasType_choice ht
      simp only [Ty.WF, Bool.and_eq_true] at hw
      exact setOfOkAlt_of_region fs i w hr hw.1.1 hiw hn
theorem setOfOkF_of_region : ∀ (fs : Fields) (vs : List Val), Fields.reg true cfg dm fs = true → Fields.WF fs = true →
    HasFields fs vs = true → noE3F cfg.seqOmitEmpty fs vs = true → SetOfOkF cfg dm mc fs vs
  | .nil, _ => fun _ _ _ _ => trivial
  | .cons _ _ _, [] => fun _ _ _ _ => trivial
  | .cons k t r, v :: vs => fun hr hw ht hn => by
      obtain ⟨⟨hr2, hw2, hf2, hn2⟩, hm⟩ := member_hyps hr hw ht hn
      refine ⟨fun hs => ?_, setOfOkF_of_region r vs hr2 hw2 hf2 hn2⟩
      obtain ⟨hr1, hw1, hty, hn1, _⟩ := hm hs
      exact setOfOk_of_region t v hr1 hw1 hty hn1
theorem setOfOkAlt_of_region : ∀ (fs : Fields) (i : Nat) (w : Val), Fields.reg true cfg dm fs = true → Fields.WF fs = true →
    HasAlt fs i w = true → noE3Alt cfg.seqOmitEmpty fs i w = true → SetOfOkAlt cfg dm mc fs i w
  | .nil, _ => fun _ _ _ _ _ => trivial
  | .cons k t r, 0 => fun w hr hw ht hn => by
      simp only [Fields.reg, Bool.and_eq_true] at hr
      exact setOfOk_of_region t w hr.1 (Fields.WF_cons hw).1 ht hn
  | .cons k t r, i + 1 => fun w hr hw ht hn => by
      simp only [Fields.reg, Bool.and_eq_true] at hr
      exact setOfOkAlt_of_region r i w hr.2 (Fields.WF_cons hw).2.1 ht hn
end

end Region

/-- **one encoding per abstract value**: an encoder that sorts SET OF (CER, DER) gives two values that are the same
    abstract value the same octets -/
theorem canonical_encoding (cfg : EncCfg) (pf : Profile) (o : EncOpts) (hi : o.ifNotEmpty = false)
    (hs : cfg.sortSetOf = true) (hR : EncRegion cfg pf (cfg.fixedChunk.getD o.maxChunk))
    (t : Ty) (v v' : Val) (hreg : t.reg true cfg (cfg.fixedDefMode.getD o.defMode) = true) (hwf : t.WF = true)
    (hd : t.dfltExact = true) (hty : HasType t v = true) (hn : noE3 cfg.seqOmitEmpty t v = true)
    (hv : VEq t v v') (b : Bytes) (h : encItem cfg o t v = .ok b) : encItem cfg o t v' = .ok b := by
  have h' : finishItem cfg (mkO (cfg.fixedDefMode.getD o.defMode) (cfg.fixedChunk.getD o.maxChunk) o.ifNotEmpty) t
      (encValue cfg (mkO (cfg.fixedDefMode.getD o.defMode) (cfg.fixedChunk.getD o.maxChunk) o.ifNotEmpty) t v) = .ok b := h
  have hk := setOfOk_of_region cfg pf _ _ hR t v hreg hwf hty hn
  show finishItem cfg (mkO (cfg.fixedDefMode.getD o.defMode) (cfg.fixedChunk.getD o.maxChunk) o.ifNotEmpty) t
      (encValue cfg (mkO (cfg.fixedDefMode.getD o.defMode) (cfg.fixedChunk.getD o.maxChunk) o.ifNotEmpty) t v') = .ok b
  exact item_veq cfg _ _ (fun r hr => veq_value cfg _ _ hs t v v' _ r hd hv hk hr) h'

end Asn1
