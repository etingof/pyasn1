/-
  Proofs.KernelStream — the methods of `CachingStreamWrapper` (pyasn1/codec/streaming.py; `read`, `peek` and the
  `markedPosition` setter translated from the source into `GenK.wrapRead` / `wrapPeek` / `wrapSetMark`, the `io.BytesIO`
  cache being a value threaded through and what `self._raw.read(...)` answers a parameter) are the steps of the wrapper
  model `Asn1.Stream.Wrapper` about which `Proofs/StreamWrapper.lean` proves that it behaves like a seekable stream.
-/
import Proofs.KernelBase
import Proofs.StreamWrapper

namespace Asn1.Kernels
open Asn1.Stream

/-- the cache of the model as the `io.BytesIO` value of the translated code -/
def bioOf (w : Wrapper) : Py.BytesIO := ⟨bytesInts w.cache, (w.cpos : Int)⟩

theorem bioRead_nat (buf : Bytes) (pos n : Nat) :
    Py.bioRead ⟨bytesInts buf, (pos : Int)⟩ (n : Int) =
      (bytesInts (bioRead buf pos n), ⟨bytesInts buf, ((pos + (bioRead buf pos n).length : Nat) : Int)⟩) := by
  unfold Py.bioRead bioRead
  have h1 : ¬ ((n : Int) < 0) := by omega
  simp only [h1, if_false, Int.toNat_natCast, bytesInts_drop, bytesInts_take, bytesInts_length, Int.natCast_add]

theorem bioRead_all (buf : Bytes) (pos : Nat) :
    Py.bioRead ⟨bytesInts buf, (pos : Int)⟩ (-1) =
      (bytesInts (buf.drop pos), ⟨bytesInts buf, ((pos + (buf.drop pos).length : Nat) : Int)⟩) := by
  unfold Py.bioRead
  simp only [show (-1 : Int) < 0 by decide, if_true, Int.toNat_natCast, bytesInts_drop, bytesInts_length, Int.natCast_add]

theorem bioWrite_nat (buf : Bytes) (pos : Nat) (hp : pos ≤ buf.length) (data : Bytes) :
    (Py.bioWrite ⟨bytesInts buf, (pos : Int)⟩ (bytesInts data)).2 =
      ⟨bytesInts (bioWrite buf pos data), ((pos + data.length : Nat) : Int)⟩ := by
  unfold Py.bioWrite bioWrite
  have hz : pos - buf.length = 0 := by omega
  cases data with
  | nil =>
    simp only [bytesInts, List.map_nil, List.isEmpty_nil, if_true, hz, List.replicate_zero, List.append_nil,
      List.length_nil, Nat.add_zero, List.take_append_drop]
  | cons d ds =>
    have hne : (bytesInts (d :: ds)).isEmpty = false := rfl
    simp only [hne, Bool.false_eq_true, if_false, Int.toNat_natCast, bytesInts_length, hz, List.replicate_zero, List.append_nil,
      bytesInts_append, bytesInts_take, bytesInts_drop, Int.natCast_add]

theorem bioSeek_back (buf : Py.Tup) (pos k : Nat) :
    Py.bioSeek ⟨buf, (pos : Int)⟩ (-(k : Int)) 1 = .ok (((pos - k : Nat) : Int), ⟨buf, ((pos - k : Nat) : Int)⟩) :=
  congrArg (fun p => Except.ok (p, (⟨buf, p⟩ : Py.BytesIO))) (seek_back_pos pos k)

/-- `read` with the raw stream answering octets `t`, any `n`: what the cache has; unless that is all of a bounded
    request, `t` after it, written to the cache as well (the source has this text twice, for `n = -1` and otherwise) -/
theorem wrapRead_some {t c : Py.Tup} {n : Int} {b b' : Py.BytesIO} (h : Py.bioRead b n = (c, b')) :
    GenK.wrapRead (some t) n b =
      if n ≠ -1 ∧ n = Py.len c then .ok (some c, b') else .ok (some (c ++ t), (Py.bioWrite b' t).2) := by
  rw [GenK.wrapRead, h]
  by_cases h1 : n = -1
  · subst h1; rfl
  · show (if decide (n ≠ -1) = true then (if (!Py.truthy (n - Py.len c)) = true then _ else _) else _) = _
    rw [if_pos (decide_eq_true h1)]
    by_cases h2 : n = Py.len c
    · have ht : Py.truthy (n - Py.len c) = false := by rw [h2, Int.sub_self]; rfl
      rw [ht]; exact (if_pos ⟨h1, h2⟩).symm
    · have ht : Py.truthy (n - Py.len c) = true := bne_iff_ne.mpr fun h => h2 (Int.eq_of_sub_eq_zero h)
      rw [ht]; exact (if_neg fun h => h2 h.2).symm

/-- **`CachingStreamWrapper.read(n)` (n ≥ 0) as it is in the source is the model's `Wrapper.read`**, the raw stream
    answering the octets the model takes from it: same octets handed out, same cache contents and position afterwards -/
theorem wrapRead_kernel (w : Wrapper) (n : Nat) (hc : w.cpos ≤ w.cache.length) :
    GenK.wrapRead (some (bytesInts (w.raw.take (n - (bioRead w.cache w.cpos n).length)))) (n : Int) (bioOf w) =
      .ok (some (bytesInts (w.read n).1), bioOf (w.read n).2) := by
  have hfl2 : w.cpos + (bioRead w.cache w.cpos n).length ≤ w.cache.length := by
    rw [bioRead, List.length_take, List.length_drop]
    exact Nat.le_trans (Nat.add_le_add_left (Nat.min_le_right _ _) _) (Nat.le_of_eq (Nat.add_sub_cancel' hc))
  rw [bioOf, wrapRead_some (bioRead_nat _ _ _), len_bytes, Wrapper.read]
  by_cases hfull : (bioRead w.cache w.cpos n).length = n
  · rw [if_pos ⟨nofun, congrArg Nat.cast hfull.symm⟩, if_pos hfull]; rfl
  · rw [if_neg (fun h => hfull (Int.ofNat_inj.mp h.2).symm), if_neg hfull]
    rw [bioWrite_nat _ _ hfl2, ← bytesInts_append]
    rfl

/-- `read(-1)`: everything left in the cache, then everything the raw stream still has -/
theorem wrapReadAll_kernel (w : Wrapper) (hc : w.cpos ≤ w.cache.length) :
    GenK.wrapRead (some (bytesInts w.raw)) (-1) (bioOf w) =
      .ok (some (bytesInts w.readAll.1), bioOf w.readAll.2) := by
  have hl : w.cpos + (w.cache.drop w.cpos).length ≤ w.cache.length := by
    rw [List.length_drop]; exact Nat.le_of_eq (Nat.add_sub_cancel' hc)
  rw [bioOf, wrapRead_some (bioRead_all _ _), if_neg (fun h => h.1 rfl), bioWrite_nat _ _ hl,
    ← bytesInts_append]
  rfl

/-- **`CachingStreamWrapper.peek(n)` as it is in the source is the model's `peek` step**: `read(n)`, then the cache
    position moved back by what was read -/
theorem wrapPeek_kernel (w : Wrapper) (n : Nat) (hc : w.cpos ≤ w.cache.length) :
    GenK.wrapPeek (some (bytesInts (w.raw.take (n - (bioRead w.cache w.cpos n).length)))) (n : Int) (bioOf w) =
      .ok (some (bytesInts (w.read n).1), bioOf { (w.read n).2 with cpos := (w.read n).2.cpos - (w.read n).1.length }) := by
  rw [GenK.wrapPeek, wrapRead_kernel w n hc]
  generalize w.read n = r
  obtain ⟨out, w'⟩ := r
  cases out with
  | nil => rfl  -- nothing read: no `seek`, and the model steps back by 0
  | cons b rest =>
    show (Py.bioSeek (bioOf w') (-(Py.len (bytesInts (b :: rest)))) 1 >>= fun x =>
      pure (some (bytesInts (b :: rest)), x.2)) = _
    rw [len_bytes, bioOf, bioSeek_back]
    rfl

/-- **the `markedPosition` setter as it is in the source is the model's `setMark` step** (with the buffer size of the
    source, `io.DEFAULT_BUFFER_SIZE` = 8192): the mark is the current position; once more than a buffer's worth is cached
    the octets before the position are dropped and position and mark restart at 0 -/
theorem wrapSetMark_kernel (w : Wrapper) :
    GenK.wrapSetMark (w.cpos : Int) (bioOf w) (w.mark : Int) =
      .ok (bioOf (w.step 8192 .setMark).2, (((w.step 8192 .setMark).2.mark : Nat) : Int)) := by
  unfold GenK.wrapSetMark Wrapper.step bioOf
  simp only [gt_iff_lt, lit_lt]
  by_cases h : 8192 < w.cpos
  · simp only [h, decide_true, if_true, bioRead_all, bind, Except.bind, pure, Except.pure, Py.bioNew]
    rfl
  · simp only [h, decide_false, Bool.false_eq_true, if_false, bind, Except.bind, pure, Except.pure]

end Asn1.Kernels
