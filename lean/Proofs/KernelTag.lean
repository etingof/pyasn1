/-
  Proofs.KernelTag — the identifier-decoding block of `SingleItemDecoder.__call__` (state `stDecodeTag`, translated
  from the source into `GenK.decodeTag`, the stream reads being reads of the complete input) computes the model's
  `decodeTag`. The masks `& 192`, `& 32`, `& 31` of the leading octet are the model's class, form bit and low tag
  number; one turn of the long-form loop is one unfolding of `decodeTagNum`, so the loop, given more fuel than octets,
  is `decodeTagNum` with the position counting the octets consumed.
-/
import Proofs.KernelBase

namespace Asn1.Kernels
open Py

theorem decodeTagNum_rest_le : ∀ (l : Bytes) (acc num : Nat) (rest : Bytes), decodeTagNum acc l = .ok (num, rest) →
    rest.length < l.length
  | [], _, _, _, h => nomatch h
  | b :: r, acc, num, rest, h => by
    rw [decodeTagNum] at h
    split at h
    · cases h; exact Nat.lt_succ_self _
    · exact Nat.lt_succ_of_lt (decodeTagNum_rest_le r _ num rest h)

theorem decodeTag_loop1_step {s : Py.Tup} {f : Nat} {pos it loi : Int} {acc b : Nat} (hb : b < 256)
    (h : Py.readN s pos 1 = .ok [↑b]) :
    GenK.decodeTag_loop1 s (f + 1) pos it loi acc =
      if b < 128 then .ok (pos + 1, b, loi + 1, ↑(acc * 128 + b % 128))
      else GenK.decodeTag_loop1 s f (pos + 1) b (loi + 1) ↑(acc * 128 + b % 128) := by
  rw [GenK.decodeTag_loop1, if_pos rfl, h]
  -- with the octet read, the body computes to its last `if`; there `tagId << 7 | b & 127` is `acc * 128 + b % 128`
  -- and `not (b & 128)` is `b < 128`
  show (if !Py.truthy (Py.band b 128) then _ else _) = _
  rw [band_128_truthy b hb, shl_7, band_127, bor_low _ _ 7 (Nat.mul_mod_left acc 128) (Nat.mod_lt _ (by decide))]
  simp only [decide_not, Bool.not_not, decide_eq_true_eq]
  rfl

/-- the loop's other two variables, the last octet and a counter, are not used afterwards: hence `∃ it' loi'` -/
theorem decodeTag_loop1_spec (bs : Bytes) (f i acc : Nat) (it loi : Int) (hf : bs.length - i < f) :
    ∃ it' loi', GenK.decodeTag_loop1 (bytesInts bs) f i it loi acc =
      match decodeTagNum acc (bs.drop i) with
      | .ok (num, rest) => .ok (↑(bs.length - rest.length), it', loi', ↑num)
      | .error _ => .error (.lib "SubstrateUnderrunError") := by
  induction f generalizing i acc it loi with
  | zero => nomatch hf
  | succ f ih =>
    have hr := readN_one bs i
    by_cases h : i < bs.length
    · rw [dif_pos h] at hr
      rw [decodeTag_loop1_step (UInt8.toNat_lt _) hr, List.drop_eq_getElem_cons h, decodeTagNum]
      by_cases h1 : bs[i].toNat < 128
      · rw [if_pos h1, if_pos h1]
        exact ⟨_, _, by simp only [List.length_drop, Nat.sub_sub_self h]; rfl⟩
      · rw [if_neg h1, if_neg h1]
        exact ih (i + 1) _ _ _ (Nat.lt_of_lt_of_le (Nat.sub_succ_lt_self _ _ h) (Nat.le_of_lt_succ hf))
    · rw [dif_neg h] at hr
      rw [GenK.decodeTag_loop1, if_pos rfl, hr, List.drop_eq_nil_of_le (Nat.le_of_not_lt h)]
      exact ⟨0, 0, rfl⟩

/-- for the model's `decodeTag`; the fourth entry is the number of octets read, `n` being the length of the input -/
def liftDecTag (n : Nat) : Res (Tag × Bytes) → Py.M Py.Tup
  | .ok (t, rest) => .ok [(t.cls.bits : Int), if t.constructed then 32 else 0, (t.num : Int), ((n - rest.length : Nat) : Int)]
  | .error _ => .error (.lib "SubstrateUnderrunError")

theorem band_192 (m : Nat) : Py.band (m : Int) 192 = ((TagClass.ofBits m).bits : Int) := by
  -- `192 = 3 * 2 ^ 6`: the mask leaves nothing below bit 6 and the two low bits of `m / 2 ^ 6` above
  have hlo : (m &&& 192) % 2 ^ 6 = 0 := Nat.and_mod_two_pow.trans (Nat.and_zero _)
  have hhi : (m &&& 192) / 2 ^ 6 = m / 64 % 4 := Nat.and_div_two_pow.trans (Nat.and_two_pow_sub_one_eq_mod _ 2)
  rw [TagClass.bits_ofBits, ← hhi, ← Nat.add_zero (64 * _), ← hlo, Nat.div_add_mod]
  rfl

theorem band_32 (m : Nat) : Py.band (m : Int) 32 = if m / 32 % 2 = 1 then 32 else 0 := band_bit m 5

theorem band_31 (m : Nat) : Py.band (m : Int) 31 = ((m % 32 : Nat) : Int) := band_low m 5

/-- **the identifier decoding of `SingleItemDecoder.__call__` as it is in the source computes the model's `decodeTag`**
    on every input: class, form bit, tag number in short and long form, octets consumed; the input running out inside
    the identifier is the `SubstrateUnderrunError` of the one-shot decoder -/
theorem decodeTag_kernel (bs : Bytes) : GenK.decodeTag (bytesInts bs) = liftDecTag bs.length (decodeTag bs) := by
  cases bs with
  | nil => rfl
  | cons b rest =>
    have h0 : Py.readN (bytesInts (b :: rest)) 0 1 = .ok [↑b.toNat] := rfl
    unfold GenK.decodeTag
    simp only [bind, Except.bind, pure, Except.pure, h0, Py.ord, band_192, band_32, band_31, decodeTag, eq_lit, len_bytes,
      Int.toNat_natCast, Int.zero_add]
    by_cases h31 : b.toNat % 32 = 31
    · obtain ⟨_, _, hl⟩ := decodeTag_loop1_spec (b :: rest) ((b :: rest).length + 1) 1 0 b.toNat 0
        (Nat.lt_succ_of_le (Nat.sub_le _ 1))
      rw [List.drop_succ_cons, List.drop_zero, Int.natCast_one, Int.natCast_zero] at hl
      simp only [h31, decide_true, if_true, hl]
      cases decodeTagNum 0 rest with
      | error _ => rfl
      | ok _ => simp [liftDecTag]
    · simp [h31, liftDecTag]

end Asn1.Kernels
