/-
  Proofs.Constraint — the evaluator of Asn1.Constraint agrees with the set-theoretic denotation
  wherever no Python type error is involved.  Each loop of the evaluator combines the verdicts of
  its operands as an intersection or as a union does (an exclusion is the union turned round); the
  proofs combine `Decides` facts the same way.  The end of the file says what the leaf
  constructors, truthiness, constructibility (`wf`) and applicability (`typed`) come to on each
  class and operand kind; the other constraint modules argue from those.
-/
import Asn1.Constraint

namespace Asn1.Constraint

/-- `r` decides `P` unless it leaks; a statement below that spells out `r ≠ .leak → (r = .accept ↔ P)`
    is `Decides r P` by definition -/
def Decides (r : Res) (P : Prop) : Prop := r ≠ .leak → (r = .accept ↔ P)

namespace Decides
variable {r r' : Res} {P Q : Prop}

theorem leak : Decides .leak P := fun h => absurd rfl h

theorem accept : Decides .accept True := fun _ => iff_of_true rfl trivial

theorem reject : Decides .reject False := fun _ => iff_of_false nofun id

theorem test [Decidable P] : Decides (if P then .accept else .reject) P := by
  by_cases h : P <;> simp [Decides, h]

theorem test_not [Decidable P] : Decides (if P then .reject else .accept) (¬ P) := by
  by_cases h : P <;> simp [Decides, h]

theorem of_iff (h : P ↔ Q) (d : Decides r P) : Decides r Q := fun hl => (d hl).trans h

theorem ite {c : Prop} [Decidable c] (d : Decides r P) (d' : Decides r' Q) :
    Decides (if c then r else r') (if c then P else Q) := by
  split <;> assumption

theorem of_accept (d : Decides r P) (h : r = .accept) : P := (d (h ▸ nofun)).mp h

theorem of_reject (d : Decides r P) (h : r = .reject) : ¬ P := fun hp => by
  cases h.symm.trans ((d (h ▸ nofun)).mpr hp)

theorem reject_iff (d : Decides r P) (h : r ≠ .leak) : r = .reject ↔ ¬ P := by
  cases r with
  | accept => exact iff_of_false nofun (not_not_intro (d.of_accept rfl))
  | reject => exact iff_of_true rfl (d.of_reject rfl)
  | leak => exact absurd rfl h

/-- one more operand of an intersection: the first to raise decides -/
theorem and (d : Decides r P) (d' : Decides r' Q) :
    Decides (match (generalizing := false) r with | .accept => r' | x => x) (P ∧ Q) := by
  cases r with
  | accept => exact d'.of_iff (by simp [d.of_accept rfl])
  | reject => exact fun _ => by simp [d.of_reject rfl]
  | leak => exact leak

/-- one more operand of a union: the first to accept decides -/
theorem or (d : Decides r P) (d' : Decides r' Q) :
    Decides (match (generalizing := false) r with
      | .accept => .accept | .reject => r' | .leak => .leak) (P ∨ Q) := by
  cases r with
  | accept => exact fun _ => by simp [d.of_accept rfl]
  | reject => exact d'.of_iff (by simp [d.of_reject rfl])
  | leak => exact leak

theorem not (d : Decides r P) :
    Decides (match (generalizing := false) r with
      | .accept => .reject | .reject => .accept | .leak => .leak) (¬ P) := by
  cases r with
  | accept => exact reject.of_iff (by simp [d.of_accept rfl])
  | reject => exact accept.of_iff (by simp [d.of_reject rfl])
  | leak => exact leak

/-- `if not self._values: return` -/
theorem shortcut {ops : Ops} (d : Decides r P) :
    Decides (if ops.isNil = true then .accept else r) (ops = .nil ∨ P) := by
  cases ops with
  | nil => exact fun _ => by simp [Ops.isNil]
  | _ => exact d.of_iff (by simp)

/-- `start, stop = self._values`: without exactly two bounds the test leaks -/
theorem withBounds {α : Type} {f : Int → Int → Res} {P : Int → Int → α → Prop} (ops : Ops)
    (d : ∀ lo hi, Decides (f lo hi) (∃ x, P lo hi x)) :
    Decides (match bounds ops with | some (lo, hi) => f lo hi | none => .leak)
      (∃ lo hi x, bounds ops = some (lo, hi) ∧ P lo hi x) := by
  cases bounds ops with
  | none => exact leak
  | some p =>
    exact (d p.1 p.2).of_iff
      ⟨fun ⟨x, h⟩ => ⟨p.1, p.2, x, rfl, h⟩, fun ⟨_, _, x, e, h⟩ => by cases e; exact ⟨x, h⟩⟩

end Decides

theorem inSet_sound (s : List Atom) (v : CVal) :
    Decides (inSet s v) (∃ a, v = .atom a ∧ a ∈ s) := by
  cases v with
  | atom a => exact Decides.test.of_iff (by simp)
  | coll _ => exact Decides.leak
  | record _ => exact Decides.leak

theorem inRange_sound (lo hi : Int) (v : CVal) :
    Decides (inRange lo hi v) (∃ z, v = .atom (.int z) ∧ lo ≤ z ∧ z ≤ hi) := by
  cases v with
  | atom a =>
    cases a with
    | int z => exact Decides.test_not.of_iff (by simp)
    | _ => exact Decides.leak
  | _ => exact Decides.leak

theorem inSize_sound (lo hi : Int) (v : CVal) :
    Decides (inSize lo hi v) (∃ n : Nat, v.len = some n ∧ lo ≤ (n : Int) ∧ (n : Int) ≤ hi) := by
  unfold inSize
  cases v.len with
  | none => exact Decides.leak
  | some n => exact Decides.test_not.of_iff (by simp)

theorem inAlphabet_sound (s : List Atom) (v : CVal) :
    Decides (inAlphabet s v) (∃ es, v.elems = some es ∧ ∀ e ∈ es, e ∈ s) := by
  unfold inAlphabet
  cases v.elems with
  | none => exact Decides.leak
  | some es => exact Decides.test.of_iff (by simp)

/-- ConstraintsExclusion (every operand must raise) turns round the verdict of the union of its
    operands (the first that does not raise wins) -/
theorem runNone_eq_not_runAny : ∀ (ops : Ops) (i : Option Nat) (v : CVal),
    runNone ops i v =
      match runAny ops i v with | .accept => .reject | .reject => .accept | .leak => .leak
  | .nil => fun _ _ => rfl
  | .con c rest => fun i v => by
    dsimp only [runNone, runAny]
    cases run c i v with
    | accept => rfl
    | reject => exact runNone_eq_not_runAny rest i v
    | leak => rfl
  | .raw _ _ | .field _ _ _ | .entry _ _ _ _ => fun _ _ => rfl

mutual
theorem run_sound : ∀ (c : Constr) (i : Option Nat) (v : CVal), Decides (run c i v) (den c i v)
  | .mk k ops, i, v => by
    cases k with
    | componentPresent => exact Decides.test_not
    | componentAbsent => exact Decides.test
    | singleValue => exact (inSet_sound _ v).shortcut
    | permittedAlphabet => exact (inAlphabet_sound _ v).shortcut
    | valueRange => exact Decides.withBounds ops fun lo hi => inRange_sound lo hi v
    | valueSize => exact Decides.withBounds ops fun lo hi => inSize_sound lo hi v
    | containedSubtype => exact Decides.shortcut (runAll_sound ops _ i v)
    | intersection => exact Decides.shortcut (runAll_sound ops _ i v)
    | union => exact Decides.shortcut (runAny_sound ops i v)
    | exclusion =>
      exact Decides.shortcut (runNone_eq_not_runAny ops i v ▸ Decides.not (runAny_sound ops i v))
    | withComponents => exact Decides.shortcut (runFields_sound ops v)
    | innerType =>
      refine Decides.shortcut (Decides.ite (runLastCon_sound ops v) (Decides.ite ?_ Decides.accept))
      cases i with
      | none => exact Decides.reject.of_iff (by simp)
      | some j => exact Decides.of_iff (by simp) (runEntry_sound ops j v)
theorem runAll_sound : ∀ (ops : Ops) (s : List Atom) (i : Option Nat) (v : CVal),
    runAll ops s i v ≠ .leak → (runAll ops s i v = .accept ↔ denAll ops s i v)
  | .nil => fun _ _ _ => Decides.accept
  | .con c rest => fun s i v => (run_sound c i v).and (runAll_sound rest s i v)
  | .raw _ rest => fun s i v => (inSet_sound s v).and (runAll_sound rest s i v)
  | .field _ _ _ | .entry _ _ _ _ => fun _ _ _ => Decides.leak
theorem runAny_sound : ∀ (ops : Ops) (i : Option Nat) (v : CVal),
    runAny ops i v ≠ .leak → (runAny ops i v = .accept ↔ denAny ops i v)
  | .nil => fun _ _ => Decides.reject
  | .con c rest => fun i v => (run_sound c i v).or (runAny_sound rest i v)
  | .raw _ _ | .field _ _ _ | .entry _ _ _ _ => fun _ _ => Decides.leak
theorem runFields_sound : ∀ (ops : Ops) (v : CVal),
    runFields ops v ≠ .leak → (runFields ops v = .accept ↔ denFields ops v)
  | .nil => fun _ => Decides.accept
  | .field f c rest => fun v => by
    dsimp only [runFields, denFields]
    cases v.get f with
    | none => exact Decides.leak
    | some x => exact ((run_sound c none x).and (runFields_sound rest v)).of_iff (by simp)
  | .con _ _ | .raw _ _ | .entry _ _ _ _ => fun _ => Decides.leak
theorem runLastCon_sound : ∀ (ops : Ops) (v : CVal),
    runLastCon ops v ≠ .leak → (runLastCon ops v = .accept ↔ denLastCon ops v)
  | .nil => fun _ => Decides.accept
  | .con c rest => fun v => by
    exact Decides.ite (runLastCon_sound rest v) (run_sound c none v)
  | .entry _ _ _ rest => fun v => runLastCon_sound rest v
  | .raw _ _ | .field _ _ _ => fun _ => Decides.leak
theorem runEntry_sound : ∀ (ops : Ops) (j : Nat) (v : CVal),
    runEntry ops j v ≠ .leak → (runEntry ops j v = .accept ↔ denEntry ops j v)
  | .nil => fun _ _ => Decides.reject
  | .entry k c ab rest => fun j v => by
    refine Decides.ite (runEntry_sound rest j v) ?_
    split
    · cases ab with
      | true => exact Decides.reject.of_iff (by simp)
      | false => exact (run_sound c none v).of_iff (by simp [*])
    · exact Decides.reject.of_iff (by simp [*])
  | .con _ rest => fun j v => runEntry_sound rest j v
  | .raw _ _ | .field _ _ _ => fun _ _ => Decides.leak
end

theorem runNone_sound : ∀ (ops : Ops) (i : Option Nat) (v : CVal),
    runNone ops i v ≠ .leak → (runNone ops i v = .accept ↔ ¬ denAny ops i v) :=
  fun ops i v => runNone_eq_not_runAny ops i v ▸ Decides.not (runAny_sound ops i v)

theorem run_valueRange (lo hi : Int) (i : Option Nat) (v : CVal) :
    run (valueRange lo hi) i v = inRange lo hi v := rfl

theorem run_valueSize (lo hi : Int) (i : Option Nat) (v : CVal) :
    run (valueSize lo hi) i v = inSize lo hi v := rfl

theorem raws_ofRaws : ∀ l : List Atom, (Ops.ofRaws l).raws = l
  | [] => rfl
  | a :: l => congrArg (a :: ·) (raws_ofRaws l)

/-- an operand-less SingleValueConstraint never reaches `_testValue` -/
theorem run_singleValue {vs : List Atom} (h : vs ≠ []) (i : Option Nat) (v : CVal) :
    run (singleValue vs) i v = inSet vs v := by
  cases vs with
  | nil => exact absurd rfl h
  | cons a vs => exact congrArg (inSet · v) (raws_ofRaws (a :: vs))

theorem run_permittedAlphabet {xs : List Atom} (h : xs ≠ []) (i : Option Nat) (v : CVal) :
    run (permittedAlphabet xs) i v = inAlphabet xs v := by
  cases xs with
  | nil => exact absurd rfl h
  | cons a xs => exact congrArg (inAlphabet · v) (raws_ofRaws (a :: xs))

variable {sh : Shape} {k : Cls} {ops r : Ops} {c : Constr} {a : Atom} {v : CVal} {f : String}
  {j : Nat} {ab : Bool}

theorem isNil_iff (ops : Ops) : ops.isNil = true ↔ ops = .nil := by
  cases ops <;> simp [Ops.isNil]

/-- `bool(self._values)`: ComponentPresent / ComponentAbsent hold a marker string, every other class
    is falsy exactly without operands -/
theorem nil_of_not_truthy (h : (Constr.mk k ops).truthy = false) : ops = .nil := by
  cases k with
  | componentPresent | componentAbsent => cases h
  | _ => exact (isNil_iff ops).mp ((Bool.not_eq_false' _).mp h)

theorem wfOps_of_wf (h : (Constr.mk k ops).wf = true) : wfOps k.shape ops = true :=
  (Bool.and_eq_true_iff.mp h).1

/-- `ValueRangeConstraint._setValues`: exactly two values, `start <= stop` -/
theorem bounds_of_wf (hk : k = .valueRange ∨ k = .valueSize) (h : (Constr.mk k ops).wf = true) :
    ∃ lo hi, bounds ops = some (lo, hi) ∧ lo ≤ hi := by
  have h : (match bounds ops with | some (lo, hi) => decide (lo ≤ hi) | none => false) = true := by
    rcases hk with rfl | rfl <;> exact (Bool.and_eq_true_iff.mp h).2
  split at h
  · exact ⟨_, _, ‹_›, of_decide_eq_true h⟩
  · cases h

theorem wfOps_con :
    wfOps sh (.con c r) = true ↔ (sh.con = true ∧ c.wf = true) ∧ wfOps sh r = true :=
  Bool.and_eq_true_iff.trans (and_congr_left' Bool.and_eq_true_iff)

theorem wfOps_raw : wfOps sh (.raw a r) = true ↔ sh.raw = true ∧ wfOps sh r = true :=
  Bool.and_eq_true_iff

theorem wfOps_field :
    wfOps sh (.field f c r) = true ↔ (sh.field = true ∧ c.wf = true) ∧ wfOps sh r = true :=
  Bool.and_eq_true_iff.trans (and_congr_left' Bool.and_eq_true_iff)

theorem wfOps_entry :
    wfOps sh (.entry j c ab r) = true ↔ (sh.entry = true ∧ c.wf = true) ∧ wfOps sh r = true :=
  Bool.and_eq_true_iff.trans (and_congr_left' Bool.and_eq_true_iff)

theorem typed_singleValue :
    typed (.mk .singleValue ops) v = true ↔ ops.isNil = true ∨ v.isAtom = true :=
  Bool.or_eq_true_iff

theorem typed_permittedAlphabet :
    typed (.mk .permittedAlphabet ops) v = true ↔ ops.isNil = true ∨ v.elems.isSome = true :=
  Bool.or_eq_true_iff

theorem typed_containedSubtype : typed (.mk .containedSubtype ops) v = true ↔
    typedOps ops v = true ∧ (ops.raws = [] ∨ v.isAtom = true) :=
  Bool.and_eq_true_iff.trans
    (and_congr_right' (Bool.or_eq_true_iff.trans (or_congr_left List.isEmpty_iff)))

theorem typed_withComponents :
    typed (.mk .withComponents ops) v = true ↔ ops.isNil = true ∨ typedFields ops v = true :=
  Bool.or_eq_true_iff

theorem typedOps_con : typedOps (.con c r) v = true ↔ typed c v = true ∧ typedOps r v = true :=
  Bool.and_eq_true_iff

theorem typedOps_entry :
    typedOps (.entry j c ab r) v = true ↔ typed c v = true ∧ typedOps r v = true :=
  Bool.and_eq_true_iff

theorem typedFields_field : typedFields (.field f c r) v = true ↔
    (∃ x, v.get f = some x ∧ typed c x = true) ∧ typedFields r v = true :=
  Bool.and_eq_true_iff.trans (and_congr_left' (by cases v.get f <;> simp))

end Asn1.Constraint
