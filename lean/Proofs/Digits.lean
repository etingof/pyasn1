/-
  Proofs.Digits — big-endian digit strings. `beDigits b` writes base `b + 2`: value round trip, digit
  bounds, no leading zero, and any digit string is `beDigits` of its value behind leading zeros; digits as
  octets (`natsToBytes`, `bytesToNats`); last, base 128 in continuation octets: how the encoders lay it out
  (`cont_be128`) and the loop that reads it back (`contLoop`).
-/
import Asn1.Basic

namespace Asn1

theorem ofBeDigits_append (b : Nat) (ds : List Nat) (d : Nat) :
    ofBeDigits b (ds ++ [d]) = ofBeDigits b ds * (b + 2) + d := by
  simp [ofBeDigits, List.foldl_append]

theorem beDigits_zero (b : Nat) : beDigits b 0 = [] := by
  rw [beDigits]; simp

theorem beDigits_pos (b n : Nat) (h : n ≠ 0) :
    beDigits b n = beDigits b (n / (b + 2)) ++ [n % (b + 2)] := by
  rw [beDigits]; simp [h]

theorem ofBe_be (b n : Nat) : ofBeDigits b (beDigits b n) = n := by
  induction n using beDigits.induct b with
  | case1 => rw [beDigits_zero]; rfl
  | case2 n h ih =>
    rw [beDigits_pos b n h, ofBeDigits_append, ih]
    exact Nat.div_add_mod' n (b + 2)

theorem beDigits_lt (b n : Nat) : ∀ d ∈ beDigits b n, d < b + 2 := by
  induction n using beDigits.induct b with
  | case1 => rw [beDigits_zero]; nofun
  | case2 n h ih =>
    rw [beDigits_pos b n h]
    intro d hd
    rcases List.mem_append.mp hd with hd | hd
    · exact ih d hd
    · rw [List.mem_singleton.mp hd]; exact Nat.mod_lt _ (Nat.succ_pos _)

theorem beDigits_ne_nil (b n : Nat) (h : n ≠ 0) : beDigits b n ≠ [] := by
  rw [beDigits_pos b n h]; simp

theorem beDigits_dropLast (b n : Nat) (h : n ≠ 0) :
    (beDigits b n).dropLast = beDigits b (n / (b + 2)) := by
  rw [beDigits_pos b n h, List.dropLast_concat]

theorem beDigits_getLastD (b n : Nat) (h : n ≠ 0) : (beDigits b n).getLastD 0 = n % (b + 2) := by
  rw [beDigits_pos b n h, List.getLastD_concat]

theorem beDigits_length_pos (b n : Nat) (h : n ≠ 0) : 0 < (beDigits b n).length :=
  List.length_pos_iff.mpr (beDigits_ne_nil b n h)

theorem beDigits_length_le (b : Nat) : ∀ (k n : Nat), n < (b + 2) ^ k → (beDigits b n).length ≤ k
  | 0, n, h => by
    obtain rfl : n = 0 := Nat.lt_one_iff.mp h
    rw [beDigits_zero]
    exact Nat.le_refl _
  | k + 1, n, h => by
    by_cases hn : n = 0
    · subst hn
      rw [beDigits_zero]
      exact Nat.zero_le _
    · rw [beDigits_pos b n hn, List.length_append, List.length_singleton]
      exact Nat.succ_le_succ (beDigits_length_le b k (n / (b + 2)) (Nat.div_lt_of_lt_mul (Nat.mul_comm _ _ ▸ h)))

theorem Kernels.be256_length_le (k n : Nat) (h : n < 256 ^ k) : (be256 n).length ≤ k := beDigits_length_le 254 k n h

theorem beDigits_head_ne_zero (b n : Nat) : (beDigits b n).head? ≠ some 0 := by
  induction n using beDigits.induct b with
  | case1 => rw [beDigits_zero]; nofun
  | case2 n h ih =>
    rw [beDigits_pos b n h]
    by_cases hq : n / (b + 2) = 0
    · have hlt : n < b + 2 := Nat.lt_of_div_eq_zero (Nat.succ_pos _) hq
      rw [hq, beDigits_zero, Nat.mod_eq_of_lt hlt]
      exact fun h0 => h (Option.some.inj h0)
    · obtain ⟨x, xs, hds⟩ := List.exists_cons_of_ne_nil (beDigits_ne_nil b _ hq)
      rw [hds] at ih ⊢
      exact ih

theorem beDigits_snoc (b v d : Nat) (hd : d < b + 2) (h : v * (b + 2) + d ≠ 0) :
    beDigits b (v * (b + 2) + d) = beDigits b v ++ [d] := by
  rw [beDigits_pos b _ h, Nat.add_comm, Nat.add_mul_div_right _ _ (by omega), Nat.add_mul_mod_self_right,
    Nat.div_eq_of_lt hd, Nat.mod_eq_of_lt hd, Nat.zero_add]

/-- a digit string is the shortest one of its value behind its leading zeros; said of `ds.reverse` so that
    the induction adds the last digit (`beDigits_snoc`) -/
theorem pad_beDigits_rev (b : Nat) : ∀ ds : List Nat, (∀ d ∈ ds, d < b + 2) →
    List.replicate (ds.reverse.length - (beDigits b (ofBeDigits b ds.reverse)).length) 0
      ++ beDigits b (ofBeDigits b ds.reverse) = ds.reverse
  | [], _ => by rw [List.reverse_nil, ofBeDigits, List.foldl_nil, beDigits_zero]; rfl
  | d :: ds, h => by
    have ih := pad_beDigits_rev b ds fun x hx => h x (List.mem_cons_of_mem _ hx)
    have hd := h d (List.mem_cons_self ..)
    rw [List.reverse_cons, ofBeDigits_append, List.length_append, List.length_singleton]
    by_cases hv : ofBeDigits b ds.reverse * (b + 2) + d = 0
    · obtain ⟨hm, hd0⟩ := Nat.eq_zero_of_add_eq_zero hv
      have hv0 : ofBeDigits b ds.reverse = 0 := (Nat.mul_eq_zero.mp hm).resolve_right (Nat.succ_ne_zero _)
      rw [hv0, beDigits_zero, List.length_nil, Nat.sub_zero, List.append_nil] at ih
      rw [hv, beDigits_zero, List.length_nil, Nat.sub_zero, List.append_nil, List.replicate_succ', ih, hd0]
    · rw [beDigits_snoc b _ d hd hv, List.length_append, List.length_singleton, Nat.add_sub_add_right,
        ← List.append_assoc, ih]

theorem natsToBytes_cons (d : Nat) (ds : List Nat) :
    natsToBytes (d :: ds) = UInt8.ofNat d :: natsToBytes ds := rfl

@[simp] theorem natsToBytes_length (ds : List Nat) : (natsToBytes ds).length = ds.length := by
  simp [natsToBytes]

theorem natsToBytes_append (a b : List Nat) : natsToBytes (a ++ b) = natsToBytes a ++ natsToBytes b := by
  simp [natsToBytes]

theorem toNat_ofNat_lt (n : Nat) (h : n < 256) : (UInt8.ofNat n).toNat = n :=
  UInt8.toNat_ofNat_of_lt' h

theorem natsToBytes_bytesToNats (bs : Bytes) : natsToBytes (bytesToNats bs) = bs := by
  induction bs with
  | nil => rfl
  | cons b bs ih => rw [bytesToNats, List.map_cons, natsToBytes_cons, ← bytesToNats, ih, UInt8.ofNat_toNat]

theorem bytesToNats_lt (bs : Bytes) : ∀ d ∈ bytesToNats bs, d < 256 := by
  intro d hd
  obtain ⟨b, _, rfl⟩ := List.mem_map.mp hd
  exact b.toNat_lt

theorem bytesToNats_natsToBytes (ds : List Nat) (h : ∀ d ∈ ds, d < 256) :
    bytesToNats (natsToBytes ds) = ds := by
  induction ds with
  | nil => rfl
  | cons d ds ih =>
    rw [natsToBytes_cons, bytesToNats, List.map_cons, ← bytesToNats,
      toNat_ofNat_lt d (h d (List.mem_cons_self ..)), ih fun x hx => h x (List.mem_cons_of_mem _ hx)]

theorem bytesToNat_natsToBytes_be256 (n : Nat) : bytesToNat (natsToBytes (be256 n)) = n := by
  unfold bytesToNat
  rw [bytesToNats_natsToBytes _ (beDigits_lt 254 n)]
  exact ofBe_be 254 n

/-- `encodeTag` and `encodeArc` write a number as its base-128 digits with bit 8 set on all but the last:
    that is the digits of the quotient, marked, then the remainder -/
theorem cont_be128 (n : Nat) (hn : n ≠ 0) :
    natsToBytes ((be128 n).dropLast.map (· + 0x80)) ++ natsToBytes [(be128 n).getLastD 0]
      = natsToBytes ((be128 (n / 128)).map (· + 0x80)) ++ [UInt8.ofNat (n % 128)] := by
  rw [beDigits_dropLast 126 n hn, beDigits_getLastD 126 n hn]
  rfl

/-- a base-128 number in continuation octets: a loop `F` that takes octets with bit 8 set into its
    accumulator and hands over to `done` at the first one without reads the digits `ds`, then `d`, as
    their value. `F` is any function with the loop's two unfolding equations: `decodeTagNum` is one, and
    `decodeArcs` inside a sub-identifier. -/
theorem contLoop {α} (F done : Nat → Bytes → α)
    (hlast : ∀ acc (b : UInt8) r, b.toNat < 128 → F acc (b :: r) = done (acc * 128 + b.toNat) r)
    (hcont : ∀ acc (b : UInt8) r, ¬ b.toNat < 128 → F acc (b :: r) = F (acc * 128 + b.toNat % 128) r)
    {d : Nat} (hd : d < 128) (r : Bytes) : ∀ (ds : List Nat) (acc : Nat), (∀ x ∈ ds, x < 128) →
    F acc (natsToBytes (ds.map (· + 0x80)) ++ UInt8.ofNat d :: r)
      = done (ds.foldl (fun a x => a * 128 + x) acc * 128 + d) r
  | [], acc, _ => by
    have hb : (UInt8.ofNat d).toNat = d := toNat_ofNat_lt d (by omega)
    exact (hlast acc _ r (by omega)).trans (by rw [hb]; rfl)
  | x :: ds, acc, h => by
    have hx : x < 128 := h x (List.mem_cons_self ..)
    have hb : (UInt8.ofNat (x + 128)).toNat = x + 128 := toNat_ofNat_lt _ (by omega)
    rw [List.map_cons, natsToBytes_cons, List.cons_append, hcont _ _ _ (by omega), hb, Nat.add_mod_right,
      Nat.mod_eq_of_lt hx]
    exact contLoop F done hlast hcont hd r ds _ fun y hy => h y (List.mem_cons_of_mem _ hy)

end Asn1
