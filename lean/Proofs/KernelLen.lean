/-
  Proofs.KernelLen — the length-decoding block of `SingleItemDecoder.__call__` (state `stDecodeLength`, translated
  from the source into `GenK.decodeLength`) computes the model's `decodeLength`; the strict BOOLEAN decoder of CER/DER
  (`GenK.cerBool`) is the model's; `int.from_bytes` and the body of the INTEGER decoder (`GenK.intDecode`) compute the
  model's `intFromBytes`.
-/
import Proofs.KernelBase
import Asn1.Decoder

namespace Asn1.Kernels
open Py

/-- for the model's `decodeLength`: the length, `-1` for the
    indefinite form (refused when the codec does not support it), `SubstrateUnderrunError` when the length octets are
    not all there; beyond `sys.maxsize` the source refuses the length (`PyAsn1Error`) where the model, which has no
    such bound, would go on to find the contents missing -/
def liftDecLen (allowIndef : Bool) : Res (Len × Bytes) → Py.M Int
  | .ok (.definite n, _) => if (n : Int) > 9223372036854775807 then .error (.lib "PyAsn1Error") else .ok (n : Int)
  | .ok (.indefinite, _) => if allowIndef then .ok (-1) else .error (.lib "PyAsn1Error")
  | .error _ => .error (.lib "SubstrateUnderrunError")

theorem liftDecLen_definite (allowIndef : Bool) {n : Nat} (hn : n ≤ 9223372036854775807) (r : Bytes) :
    liftDecLen allowIndef (.ok (.definite n, r)) = .ok (n : Int) :=
  if_neg (by omega)

theorem decodeLength_loop1_spec (c : Py.Tup) : ∀ (bs : Bytes) (acc : Int),
    GenK.decodeLength_loop1 c (bytesInts bs) acc = .ok (intFromBytesAux acc bs)
  | [], acc => rfl
  | b :: rest, acc => by
    simp only [bytesInts_cons, GenK.decodeLength_loop1, shl_bor_octet]
    rw [decodeLength_loop1_spec c rest]
    rfl

theorem decodeLength_kernel (allowIndef : Bool) (b : UInt8) (rest : Bytes) :
    GenK.decodeLength allowIndef (b.toNat : Int) (bytesInts (rest.take (b.toNat % 128))) =
      liftDecLen allowIndef (decodeLength (b :: rest)) := by
  have hb := UInt8.toNat_lt b
  have hneg : ∀ n : Nat, ((n : Int) = -1) = False := fun n => eq_false (by omega)
  unfold GenK.decodeLength decodeLength
  simp only [lt_lit, gt_iff_lt, lit_lt, band_127, len_bytes, bind, Except.bind, pure, Except.pure, ne_eq,
    Int.natCast_inj]
  by_cases h1 : b.toNat < 128
  · simp only [h1, decide_true, if_true, hneg, decide_false, Bool.false_and, Bool.false_eq_true, if_false, liftDecLen,
      gt_iff_lt, lit_lt, show ¬ 9223372036854775807 < b.toNat by omega]
  · by_cases h2 : b.toNat = 128
    · cases allowIndef <;> simp [h2, liftDecLen] <;> rfl
    · simp only [h1, h2, show 128 < b.toNat by omega, if_false, if_true, decide_true, decide_false, Bool.false_eq_true]
      generalize b.toNat % 128 = size
      by_cases hlen : size ≤ rest.length
      · simp only [List.length_take, Nat.min_eq_left hlen, not_true_eq_false, decide_false, Bool.false_eq_true,
          if_false, hlen, if_true, decodeLength_loop1_spec, intFromBytesAux_zero, liftDecLen, gt_iff_lt, lit_lt]
        generalize bytesToNat (rest.take size) = n
        by_cases hbig : 9223372036854775807 < n
        · simp only [hbig, decide_true, if_true]; rfl
        · simp only [hbig, decide_false, Bool.false_eq_true, if_false, hneg, Bool.false_and]
      · simp only [List.length_take, Nat.min_eq_right (Nat.le_of_not_le hlen), show ¬ rest.length = size by omega,
          not_false_eq_true, decide_true, if_true, hlen, if_false, liftDecLen]
        rfl

def liftBool : Res Val → Py.M Int
  | .ok (.bool true) => .ok 1
  | .ok (.bool false) => .ok 0
  -- never met: it is applied to `decPrim cfg .boolean _` only, whose values are all `.bool _`
  | .ok _ => .error (.lib "unreachable")
  | .error _ => .error (.lib "PyAsn1Error")

/-- `cer.decoder.BooleanPayloadDecoder.valueDecoder` as it is in the source (the stream read of `length` octets being
    its argument) is the model's strict BOOLEAN decoder: exactly one contents octet, `FF` or `00` -/
theorem cerBool_kernel (cfg : DecCfg) (hs : cfg.boolStrict = true) (h : Bytes) (tg : Tag) (c : Bytes) :
    GenK.cerBool (c.length : Int) (bytesInts c) = liftBool (decPrim cfg .boolean (.prim h tg c)) := by
  unfold GenK.cerBool decPrim
  simp only [hs, if_true]
  match c with
  | [] => simp [liftBool, throw_eq]
  | [b] =>
    -- the source's tests on the octet's value are the model's tests on the octet
    have hF : ((b.toNat : Int) = 255) = (b = 255) := (eq_lit _ 255).trans (propext (UInt8.toNat_inj (b := 255)))
    have hZ : ((b.toNat : Int) = 0) = (b = 0) := (eq_lit _ 0).trans (propext (UInt8.toNat_inj (b := 0)))
    simp only [List.length_singleton, bytesInts_cons, idx_cons_zero, bind, Except.bind, pure, Except.pure, hF, hZ]
    rw [if_neg (by decide : ¬ decide (((1 : Nat) : Int) ≠ 1) = true)]
    by_cases h1 : b = 255
    · rw [if_pos (decide_eq_true h1), if_pos h1]; rfl
    · rw [if_neg (mt of_decide_eq_true h1), if_neg h1]
      by_cases h0 : b = 0
      · rw [if_pos (decide_eq_true h0), if_pos h0]; rfl
      · rw [if_neg (mt of_decide_eq_true h0), if_neg h0]; rfl
  | b1 :: b2 :: rest =>
    have : ¬ ((rest.length : Int) + 1 + 1 = 1) := by omega
    simp [this, liftBool, throw_eq]

theorem natOfBE_bytes : ∀ (bs : Bytes) (acc : Int), Py.natOfBE (bytesInts bs) acc = intFromBytesAux acc bs
  | [], _ => rfl
  | b :: rest, acc => by
    simp only [bytesInts_cons, Py.natOfBE, intFromBytesAux]
    exact natOfBE_bytes rest _

theorem intFromBytesAux_shift : ∀ (bs : Bytes) (a d : Int),
    intFromBytesAux (a + d) bs = intFromBytesAux a bs + d * (256 : Int) ^ bs.length
  | [], a, d => by simp [intFromBytesAux]
  | b :: rest, a, d => by
    simp only [intFromBytesAux, List.length_cons]
    have : (a + d) * 256 + (b.toNat : Int) = (a * 256 + b.toNat) + d * 256 := by
      simp only [Int.add_mul]; omega
    rw [this, intFromBytesAux_shift rest _ (d * 256), Int.pow_succ, Int.mul_assoc, Int.mul_comm 256]

theorem fromBytes_signed (bs : Bytes) : Py.fromBytes (bytesInts bs) true = intFromBytes bs := by
  cases bs with
  | nil => rfl
  | cons b rest =>
    have hb := UInt8.toNat_lt b
    simp only [Py.fromBytes, bytesInts_cons, Bool.true_and]
    rw [show ((b.toNat : Int) :: bytesInts rest) = bytesInts (b :: rest) from rfl, natOfBE_bytes]
    simp only [intFromBytes, intFromBytesAux]
    by_cases h : b.toNat < 128
    · have : ¬ ((b.toNat : Int) ≥ 128) := by omega
      simp [h, this]
    · have h' : ((b.toNat : Int) ≥ 128) := by omega
      simp only [h, h', decide_true, if_true, if_false]
      have := intFromBytesAux_shift rest ((b.toNat : Int) - 256) 256
      have e1 : (b.toNat : Int) - 256 + 256 = 0 * 256 + (b.toNat : Int) := by omega
      rw [e1] at this
      rw [this]
      rw [bytesInts_length, List.length_cons, Int.pow_succ]
      omega

/-- **the body of `IntegerPayloadDecoder.valueDecoder`** (translated; calls the translated `from_bytes`) **is the
    model's `intFromBytes`**, for every contents -/
theorem intDecode_kernel (c : Bytes) : GenK.intDecode (bytesInts c) = .ok (intFromBytes c) := by
  unfold GenK.intDecode GenK.fromBytes
  cases c with
  | nil => rfl
  | cons b rest =>
    simp only [bytesInts_isEmpty, List.isEmpty_cons, Bool.not_false, if_true, bind, Except.bind, pure, Except.pure,
      fromBytes_signed]

end Asn1.Kernels
