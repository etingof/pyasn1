/-
  Proofs.Mono — the stricter decoders are restrictions of the wider ones: whatever a stricter
  configuration accepts, a wider one accepts with the same result.
-/
import Asn1.Decoder
import Proofs.DecInduct

namespace Asn1

section
variable (a b : ParseCfg) (hab : a.allowIndef = true → b.allowIndef = true)
include hab

theorem parsers_mono : ∀ f : Nat,
    (∀ bs t rest, parse a f bs = .ok (t, rest) → parse b f bs = .ok (t, rest)) ∧
    (∀ bs cs, parseAll a f bs = .ok cs → parseAll b f bs = .ok cs) ∧
    (∀ bs cs rest, parseUntilEoo a f bs = .ok (cs, rest) → parseUntilEoo b f bs = .ok (cs, rest)) :=
  parsers_ok_induct a
    (prim := fun h1 h2 hn hc => by rw [parse_of_header h1 h2, parseBody_prim hn hc])
    (consDef := fun h1 h2 hn hc ih => by rw [parse_of_header h1 h2, parseBody_def hn hc, ih]; rfl)
    (consIndef := fun h1 h2 hi hc ih => by
      rw [parse_of_header h1 h2, parseBody_indef (hab hi) hc, ih]; rfl)
    (nil := fun _ => rfl)
    (cons := fun hne _ ihp iha => by
      rw [parseAll_step, if_neg hne, ihp, Res.bind_ok, iha]; rfl)
    (eoo := fun h2 he => by rw [parseUntil_step, if_neg (Nat.not_lt.mpr h2), if_pos he])
    (more := fun h2 he _ ihp ihu => by
      rw [parseUntil_step, if_neg (Nat.not_lt.mpr h2), if_neg he, ihp, Res.bind_ok, ihu]; rfl)

end

theorem parse_mono (a b : ParseCfg) (hab : a.allowIndef = true → b.allowIndef = true) :
    ∀ (f : Nat) (bs : Bytes) (r : TLV × Bytes), parse a f bs = .ok r → parse b f bs = .ok r :=
  fun f bs r => (parsers_mono a b hab f).1 bs r.1 r.2
theorem parseAll_mono (a b : ParseCfg) (hab : a.allowIndef = true → b.allowIndef = true) :
    ∀ (f : Nat) (bs : Bytes) (r : List TLV), parseAll a f bs = .ok r → parseAll b f bs = .ok r :=
  fun f => (parsers_mono a b hab f).2.1
theorem parseUntil_mono (a b : ParseCfg) (hab : a.allowIndef = true → b.allowIndef = true) :
    ∀ (f : Nat) (bs : Bytes) (r : List TLV × Bytes),
      parseUntilEoo a f bs = .ok r → parseUntilEoo b f bs = .ok r :=
  fun f bs r => (parsers_mono a b hab f).2.2 bs r.1 r.2

/-- `a` is at least as strict as `b` -/
structure DecCfg.Stricter (a b : DecCfg) : Prop where
  indef : a.parse.allowIndef = true → b.parse.allowIndef = true
  bool : a.boolStrict = false → b.boolStrict = false
  bits : a.consBits = true → b.consBits = true
  strs : ∀ k, a.consStr.contains k = true → b.consStr.contains k = true

theorem decPrim_mono (a b : DecCfg) (hs : a.Stricter b) (p : PrimTy) (x : TLV) (v : Val)
    (h : decPrim a p x = .ok v) : decPrim b p x = .ok v := by
  cases x with
  | cons hd tg i cs =>
    rcases decPrim_cons_ok.mp h with ⟨rfl, he, hb, hfr⟩ | ⟨k, fs, rfl, hk, hfs⟩
    · exact decPrim_cons_ok.mpr (.inl ⟨rfl, he, hs.bits hb, hfr⟩)
    · exact decPrim_cons_ok.mpr (.inr ⟨k, fs, rfl, hs.strs k hk, hfs⟩)
  | prim hd tg c =>
    by_cases hp : p = .boolean
    · subst hp
      cases ha : a.boolStrict with
      | false => rw [decPrim_bool_lax ha] at h; rw [decPrim_bool_lax (hs.bool ha)]; exact h
      | true =>
        have h := (decPrim_bool_strict ha).mp h
        cases hb : b.boolStrict with
        | true => exact (decPrim_bool_strict hb).mpr h
        | false =>
          -- 00 and FF are read as false and true by the lax decoder too
          rw [decPrim_bool_lax hb]
          rcases h with ⟨rfl, rfl⟩ | ⟨rfl, rfl⟩ <;> rfl
    · rw [← decPrim_prim_cfg a b hp]; exact h

variable (a b : DecCfg) (hs : a.Stricter b)
include hs

omit hs in
theorem onlyChild_mono {f g : TLV → Res Val} (hfg : ∀ c v, f c = .ok v → g c = .ok v) (x : TLV) (v : Val)
    (h : onlyChild f x = .ok v) : onlyChild g x = .ok v := by
  obtain ⟨hd, tg, i, c, rfl, h⟩ := onlyChild_ok.mp h
  exact hfg c v h

omit hs in
theorem decElems_mono (t : Ty) (ih : ∀ x v, decTy a t x = .ok v → decTy b t x = .ok v) :
    ∀ (cs : List TLV) (vs : List Val), decElems a t cs = .ok vs → decElems b t cs = .ok vs
  | [] => fun vs h => by simpa [decElems] using h
  | c :: cs => fun vs h => by
      obtain ⟨v, hv, ws, hws, rfl⟩ := decElems_cons_ok.mp h
      exact decElems_cons_ok.mpr ⟨v, ih c v hv, ws, decElems_mono t ih cs ws hws, rfl⟩

omit hs in
/-- `decTy` only adds a comparison of the identifier, which does not depend on the configuration -/
theorem mono_of_body {t : Ty} {o : TagClass × Nat} (ho : t.outer = some o)
    (hB : ∀ x v, decBody a t x = .ok v → decBody b t x = .ok v) :
    (∀ x v, decBody a t x = .ok v → decBody b t x = .ok v) ∧
    (∀ x v, decTy a t x = .ok v → decTy b t x = .ok v) :=
  ⟨hB, fun x v h => (decTy_eq_ok ho).mpr (((decTy_eq_ok ho).mp h).imp_right (hB x v))⟩

omit hs in
theorem decSet_mono_of (fs : Fields)
    (hm : ∀ i x r, decMember a fs i x = .ok r → decMember b fs i x = .ok r) :
    ∀ (cs : List TLV) (acc vs : List Val), decSet a fs cs acc = .ok vs → decSet b fs cs acc = .ok vs
  | [] => fun acc vs h => by simpa [decSet] using h
  | c :: cs => fun acc vs h => by
      rw [decSet_cons, Res.bind_eq_ok] at h ⊢
      obtain ⟨r, hr, h⟩ := h
      exact ⟨r, hm 0 c r hr, decSet_mono_of fs hm cs _ vs h⟩

omit hs in
theorem decAlt_mono_of (fs : Fields)
    (hm : ∀ i x r, decMember a fs i x = .ok r → decMember b fs i x = .ok r) (i : Nat) (x : TLV)
    (v : Val) (h : decAlt a fs i x = .ok v) : decAlt b fs i x = .ok v := by
  rw [decAlt_eq_member] at h ⊢
  obtain ⟨r, hr, rfl⟩ := Res.map_eq_ok.mp h
  exact Res.map_eq_ok.mpr ⟨r, hm i x r hr, rfl⟩

mutual
theorem mono_ty : ∀ t : Ty,
    (∀ x v, decBody a t x = .ok v → decBody b t x = .ok v) ∧
    (∀ x v, decTy a t x = .ok v → decTy b t x = .ok v)
  | .prim p => mono_of_body a b rfl fun x v h => by
      rw [decBody] at h ⊢; exact decPrim_mono a b hs p x v h
  | .seq fs => mono_of_body a b rfl fun x v h => by
      cases x with
      | prim => simp [decBody] at h
      | cons hd tg i cs =>
        simp only [decBody, Res.map_eq_ok] at h ⊢
        obtain ⟨ws, hws, rfl⟩ := h
        exact ⟨ws, (mono_fields fs).1 cs ws hws, rfl⟩
  | .set fs => mono_of_body a b rfl fun x v h => by
      cases x with
      | prim => simp [decBody] at h
      | cons hd tg i cs =>
        rw [decBody_set, Res.bind_eq_ok] at h ⊢
        obtain ⟨ws, hws, h⟩ := h
        exact ⟨ws, decSet_mono_of a b fs (mono_fields fs).2 cs _ ws hws, h⟩
  | .seqOf t | .setOf t => mono_of_body a b rfl fun x v h => by
      cases x with
      | prim => simp [decBody] at h
      | cons hd tg i cs =>
        simp only [decBody, Res.map_eq_ok] at h ⊢
        obtain ⟨ws, hws, rfl⟩ := h
        exact ⟨ws, decElems_mono a b t (mono_ty t).2 cs ws hws, rfl⟩
  | .choice fs =>
    ⟨fun x v h => by
      rw [decBody_choice] at h ⊢
      exact onlyChild_mono (decAlt_mono_of a b fs (mono_fields fs).2 0) x v h,
     fun x v h => by rw [decTy] at h ⊢; exact decAlt_mono_of a b fs (mono_fields fs).2 0 x v h⟩
  | .any =>
    ⟨fun x v h => by cases x <;> simpa [decBody] using h, fun x v h => by simpa [decTy] using h⟩
  | .tagged true cls num t => mono_of_body a b rfl fun x v h => by
      rw [decBody_explicit] at h ⊢
      exact onlyChild_mono (mono_ty t).2 x v h
  | .tagged false cls num t => mono_of_body a b rfl fun x v h => by
      rw [decBody] at h ⊢; exact (mono_ty t).1 x v h
theorem mono_fields : ∀ fs : Fields,
    (∀ cs vs, decFields a fs cs = .ok vs → decFields b fs cs = .ok vs) ∧
    (∀ i x r, decMember a fs i x = .ok r → decMember b fs i x = .ok r)
  | .nil =>
    ⟨fun cs vs h => by cases cs <;> simpa [decFields] using h,
     fun i x r h => by simp [decMember] at h⟩
  | .cons k t rest =>
    ⟨fun cs ws h => by
      rcases decFields_cons_ok.mp h with
        ⟨c, cs', v, vs, rfl, hk, hv, hvs, rfl⟩ | ⟨d, vs, hd, hn, hvs, rfl⟩
      · exact decFields_cons_ok.mpr (.inl ⟨c, cs', v, vs, rfl, hk, (mono_ty t).2 c v hv,
          (mono_fields rest).1 cs' vs hvs, rfl⟩)
      · exact decFields_cons_ok.mpr (.inr ⟨d, vs, hd, hn, (mono_fields rest).1 cs vs hvs, rfl⟩),
     fun i x r h => by
      rw [decMember] at h ⊢
      split at h <;> rename_i hacc
      · rw [if_pos hacc]
        obtain ⟨w, hw, rfl⟩ := Res.map_eq_ok.mp h
        exact Res.map_eq_ok.mpr ⟨w, (mono_ty t).2 x w hw, rfl⟩
      · rw [if_neg hacc]; exact (mono_fields rest).2 (i + 1) x r h⟩
end

theorem decTy_mono : ∀ (t : Ty) (x : TLV) (v : Val), decTy a t x = .ok v → decTy b t x = .ok v :=
  fun t => (mono_ty a b hs t).2
theorem decBody_mono : ∀ (t : Ty) (x : TLV) (v : Val), decBody a t x = .ok v → decBody b t x = .ok v :=
  fun t => (mono_ty a b hs t).1
theorem decAlt_mono : ∀ (fs : Fields) (i : Nat) (x : TLV) (v : Val),
    decAlt a fs i x = .ok v → decAlt b fs i x = .ok v :=
  fun fs => decAlt_mono_of a b fs (mono_fields a b hs fs).2
theorem decFields_mono : ∀ (fs : Fields) (cs : List TLV) (vs : List Val),
    decFields a fs cs = .ok vs → decFields b fs cs = .ok vs :=
  fun fs => (mono_fields a b hs fs).1
theorem decMember_mono : ∀ (fs : Fields) (i : Nat) (x : TLV) (r : Nat × Val),
    decMember a fs i x = .ok r → decMember b fs i x = .ok r :=
  fun fs => (mono_fields a b hs fs).2
theorem decSet_mono (fs : Fields) : ∀ (cs : List TLV) (acc vs : List Val),
    decSet a fs cs acc = .ok vs → decSet b fs cs acc = .ok vs :=
  decSet_mono_of a b fs (decMember_mono a b hs fs)

theorem decodeOne_mono (t : Ty) (bs : Bytes) (r : Val × Bytes) (h : decodeOne a t bs = .ok r) :
    decodeOne b t bs = .ok r := by
  obtain ⟨v, rest⟩ := r
  obtain ⟨x, hp, hx⟩ := decodeOne_ok.mp h
  exact decodeOne_ok.mpr ⟨x, parse_mono a.parse b.parse hs.indef _ bs _ hp, decTy_mono a b hs t x v hx⟩

end Asn1
