/-
  Proofs.StreamIter — the streaming decoder (`iterP` over `parseP`) on a stream of well-formed
  elements: it never uses `readAll` (so the schedule theorem applies), and on the complete input
  it yields the elements one by one, each ending where its encoding ends, then stops.
  Also: stream kinds that answer the primitives alike run every program alike (`run_kind_congr`);
  so without a cache drop the wrapped kind behaves like the seekable kind.
-/
import Proofs.StreamParse

namespace Asn1.Stream

variable {ε α β : Type}

theorem noReadAll_ite {c : Prop} [Decidable c] {p q : Prog ε α} (hp : p.NoReadAll) (hq : q.NoReadAll) :
    (if c then p else q).NoReadAll := by
  split
  · exact hp
  · exact hq

theorem noReadAll_tagNumP : ∀ (tf acc : Nat) (hb : Bytes),
    (tagNumP tf acc hb : Prog ε (Nat × Bytes)).NoReadAll
  | 0, _, _ => trivial
  | tf + 1, acc, hb => fun b => by
    dsimp only
    split
    · exact noReadAll_ite trivial (noReadAll_tagNumP tf _ _)
    · trivial

theorem noReadAll_tagP (tf : Nat) : (tagP tf : Prog ε (Tag × Bytes)).NoReadAll := fun b => by
  dsimp only
  split
  · exact noReadAll_ite (noReadAll_bind _ _ (noReadAll_tagNumP tf _ _) fun _ => trivial) trivial
  · trivial

theorem noReadAll_lenP : (lenP : Prog ε (Len × Bytes)).NoReadAll := fun b => by
  dsimp only
  split
  · exact noReadAll_ite trivial (noReadAll_ite trivial fun _ => trivial)
  · trivial

mutual
theorem noReadAll_parseP (cfg : ParseCfg) (tf : Nat) :
    ∀ fuel, (parseP cfg tf fuel : Prog ε TLV).NoReadAll
  | 0 => trivial
  | f + 1 => by
    rw [parseP_succ]
    refine noReadAll_bind _ _ (noReadAll_tagP tf) fun th => noReadAll_bind _ _ noReadAll_lenP fun lh => ?_
    generalize lh.1 = len
    cases len with
    | definite n =>
      exact noReadAll_ite (fun _ => noReadAll_bind _ _ (noReadAll_childrenDefP cfg tf f _ _) fun _ => trivial)
        fun _ => trivial
    | indefinite =>
      exact noReadAll_ite trivial (noReadAll_ite trivial
        (noReadAll_bind _ _ (noReadAll_childrenIndefP cfg tf f) fun _ => trivial))
theorem noReadAll_childrenDefP (cfg : ParseCfg) (tf : Nat) :
    ∀ fuel n orig, (childrenDefP cfg tf fuel n orig : Prog ε (List TLV)).NoReadAll
  | 0, _, _ => trivial
  | f + 1, n, orig => fun _ =>
    noReadAll_ite
      (noReadAll_bind _ _ (noReadAll_parseP cfg tf f) fun _ =>
        noReadAll_bind _ _ (noReadAll_childrenDefP cfg tf f n orig) fun _ => trivial)
      (noReadAll_ite trivial trivial)
theorem noReadAll_childrenIndefP (cfg : ParseCfg) (tf : Nat) :
    ∀ fuel, (childrenIndefP cfg tf fuel : Prog ε (List TLV)).NoReadAll
  | 0 => trivial
  | f + 1 => fun _ =>
    noReadAll_ite trivial
      (noReadAll_bind _ _ (noReadAll_parseP cfg tf f) fun _ =>
        noReadAll_bind _ _ (noReadAll_childrenIndefP cfg tf f) fun _ => trivial)
end

theorem noReadAll_iterP (item : Prog ε ε) (hi : item.NoReadAll) : ∀ n, (iterP item n).NoReadAll
  | 0 => trivial
  | n + 1 => noReadAll_bind _ _ hi fun _ _ => noReadAll_ite trivial (noReadAll_iterP item hi n)

/-- the item decoder the driver runs: an element and `tell()` after it -/
def itemP (cfg : ParseCfg) (tf fuel : Nat) : Prog (TLV × Nat) (TLV × Nat) :=
  (parseP cfg tf fuel).bind fun t => .tell fun p => .pure (t, p)

theorem streamP_eq (cfg : ParseCfg) (n : Nat) :
    streamP cfg n = iterP (itemP cfg (n + 1) (n + 2)) (n + 1) := rfl

theorem noReadAll_streamP (cfg : ParseCfg) (n : Nat) : (streamP cfg n).NoReadAll := by
  rw [streamP_eq]
  refine noReadAll_iterP _ ?_ _
  exact noReadAll_bind _ _ (noReadAll_parseP cfg _ _) (fun _ => by intro _; trivial)

def ends : Nat → List TLV → List (TLV × Nat)
  | _, [] => []
  | p, t :: ts => (t, p + t.ser.length) :: ends (p + t.ser.length) ts

theorem serList_length_ge (ts : List TLV) (hw : WFs ts) : 2 * ts.length ≤ (serList ts).length := by
  induction ts with
  | nil => simp [serList]
  | cons t rest ih =>
    have := t.ser_length_ge hw.1
    have := ih hw.2
    simp [serList]; omega

theorem eosAns_closed (k : Kind) (d : Bytes) (pos : Nat) (hp : pos ≤ d.length) :
    eosAns k d true pos = .ok (decide (pos = d.length)) := by
  cases k with
  | bytesIO => by_cases h : pos = d.length <;> simp [eosAns, h]
  | seekable | wrapped =>
    simp only [eosAns]
    by_cases h : pos < d.length
    · have : pos ≠ d.length := Nat.ne_of_lt h
      simp [h, this]
    · have : pos = d.length := Nat.le_antisymm hp (Nat.le_of_not_lt h)
      simp [this]

/-- on the complete, closed input the iterator yields every element with its end position, in
    order, and then stops at the end of the data -/
theorem run_iter_items (cfg : ParseCfg) (k : Kind) (B : Nat) (d : Bytes) (tf fuel : Nat)
    (hnd : NoDropK k B d) (htf : d.length ≤ tf) (hfuel : d.length ≤ fuel) :
    ∀ (ts : List TLV) (m : Nat) (s : St (TLV × Nat)), ts ≠ [] → WFs ts → okForL cfg ts →
      ts.length ≤ m → At d s.pos (serList ts) → s.base = 0 →
      ∃ s', run k B d true (iterP (itemP cfg tf fuel) m) s = .done () s' ∧ s'.pos = d.length ∧
        s'.base = 0 ∧ s'.out = (ends s.pos ts).reverse ++ s.out := by
  intro ts
  induction ts with
  | nil => intro m s hne; exact absurd rfl hne
  | cons t rest ih =>
    intro m s _ hw ho hm hat hb
    rw [serList] at hat
    obtain ⟨m', rfl⟩ := Nat.exists_eq_add_one.mpr (Nat.zero_lt_of_lt hm)
    rw [List.length_cons] at hm
    have hlen := hat.length
    rw [List.length_append] at hlen
    obtain ⟨hot, hor⟩ := okForL_cons ho
    have hp := parse_ser cfg t fuel (serList rest) hw.1 hot (by omega)
    obtain ⟨s1, hr1, hat1, hb1, ho1⟩ := run_parseP (ε := TLV × Nat) cfg k B d true tf hnd fuel
      (t.ser ++ serList rest) t (serList rest) hp (by rw [List.length_append]; omega) [] s
      (by rwa [List.append_nil]) hb
    rw [List.append_nil] at hat1
    have hlen1 := hat1.length
    obtain ⟨p1, m1, b1, o1⟩ := s1
    simp only at hat1 hb1 ho1 hlen1
    subst hb1
    have hpos1 : p1 = s.pos + t.ser.length := At.pos_add (x := []) hat1 hat
    have hiter : ∀ j, iterP (itemP cfg tf fuel) (j + 1) =
        (parseP cfg tf fuel).bind fun t => .tell fun p => .emit (t, p) (.eos fun e =>
          if e then .pure () else iterP (itemP cfg tf fuel) j) := by
      intro j; simp only [iterP, itemP, bind_assoc]; rfl
    rw [hiter, run_bind_done hr1]
    dsimp only [run, Nat.sub_zero]
    rw [run_eos, eosAns_closed k d p1 hat1.1]
    dsimp only
    by_cases hrest : rest = []
    · subst hrest
      have : p1 = d.length := hlen1
      simp only [this, decide_true, if_true, run]
      refine ⟨_, rfl, rfl, rfl, ?_⟩
      simp [ends, ho1, ← this, hpos1]
    · -- more elements follow, so this is not the end of the data
      have hL : 0 < (serList rest).length :=
        Nat.lt_of_lt_of_le (Nat.mul_pos Nat.zero_lt_two (List.length_pos_iff.mpr hrest))
          (serList_length_ge rest hw.2)
      have hne : p1 ≠ d.length := Nat.ne_of_lt (hlen1 ▸ Nat.lt_add_of_pos_right hL)
      simp only [hne, decide_false, Bool.false_eq_true, if_false]
      obtain ⟨s', hr, hp', hb', ho'⟩ := ih m' { pos := p1, mark := m1, base := 0, out := (t, p1) :: o1 }
        hrest hw.2 hor (Nat.le_of_succ_le_succ hm) hat1 rfl
      refine ⟨s', hr, hp', hb', ?_⟩
      rw [ho']
      simp [ends, ho1, hpos1]

/-- the same for the program the driver runs, from the start of the stream -/
theorem run_streamP_items (cfg : ParseCfg) (k : Kind) (B : Nat) (ts : List TLV) (hne : ts ≠ [])
    (hw : WFs ts) (ho : okForL cfg ts) (hnd : NoDropK k B (serList ts)) :
    ∃ s', run k B (serList ts) true (streamP cfg (serList ts).length) {} = .done () s' ∧
      s'.pos = (serList ts).length ∧ s'.out = (ends 0 ts).reverse := by
  rw [streamP_eq]
  have hl := serList_length_ge ts hw
  obtain ⟨s', hr, hp, _, hout⟩ := run_iter_items cfg k B (serList ts) ((serList ts).length + 1)
    ((serList ts).length + 2) hnd (Nat.le_succ _) (Nat.le_add_right _ 2) ts ((serList ts).length + 1) {}
    hne hw ho (by omega) ⟨Nat.zero_le _, rfl⟩ rfl
  exact ⟨s', hr, hp, by simpa using hout⟩

theorem readAns_wrapped (d : Bytes) (cl : Bool) (pos n : Nat) :
    readAns .wrapped d cl pos n = readAns .seekable d cl pos n := rfl
theorem readAllAns_wrapped (d : Bytes) (cl : Bool) (pos : Nat) :
    readAllAns .wrapped d cl pos = readAllAns .seekable d cl pos := rfl
theorem eosAns_wrapped (d : Bytes) (cl : Bool) (pos : Nat) :
    eosAns .wrapped d cl pos = eosAns .seekable d cl pos := rfl

theorem readAns_ok_le {k : Kind} {d : Bytes} {cl : Bool} {pos n : Nat} {b : Bytes}
    (h : readAns k d cl pos n = .ok b) : pos + n ≤ d.length := by
  unfold readAns at h
  split at h
  · assumption
  · split at h <;> exact nomatch h

theorem readAllAns_ok_le {k : Kind} {d : Bytes} {cl : Bool} {pos : Nat} {b : Bytes}
    (h : readAllAns k d cl pos = .ok b) : pos + b.length ≤ d.length := by
  unfold readAllAns at h
  split at h
  next hl =>
    obtain rfl := Ans.ok.inj h
    rw [List.length_drop, Nat.add_sub_cancel' (Nat.le_of_lt hl)]
    exact Nat.le_refl _
  · split at h <;> exact nomatch h

theorem setMark_pos (k : Kind) (B : Nat) (s : St ε) :
    (s.setMark k B).pos = s.pos ∧ (s.setMark k B).mark = s.pos := by
  unfold St.setMark; split <;> exact ⟨rfl, rfl⟩

/-- two stream kinds that answer the primitives alike on the data `d` and set marks alike run every
    program alike, from any state within the data -/
theorem run_kind_congr (k₁ k₂ : Kind) (B : Nat) (d : Bytes) (cl : Bool)
    (hr : ∀ pos n, readAns k₁ d cl pos n = readAns k₂ d cl pos n)
    (ha : ∀ pos, readAllAns k₁ d cl pos = readAllAns k₂ d cl pos)
    (he : ∀ pos, pos ≤ d.length → eosAns k₁ d cl pos = eosAns k₂ d cl pos)
    (hs : ∀ s : St ε, s.pos ≤ d.length → s.setMark k₁ B = s.setMark k₂ B)
    (p : Prog ε α) (s : St ε) (hp : s.pos ≤ d.length) (hm : s.mark ≤ d.length) :
    run k₁ B d cl p s = run k₂ B d cl p s := by
  induction p generalizing s with
  | pure | fail => rfl
  | emit x p ih => exact ih _ hp hm
  | read n f ih =>
    rw [run_read, run_read, hr]
    cases h : readAns k₂ d cl s.pos n with
    | ok b => exact ih b _ (readAns_ok_le h) hm
    | wait => rfl
    | eos => rfl
  | readAll c f ih =>
    rw [run_readAll, run_readAll, ha]
    cases h : readAllAns k₂ d cl s.pos with
    | ok b => exact ih b _ (readAllAns_ok_le h) hm
    | wait => rfl
    | eos =>
      cases c with
      | false => rfl
      | true => exact ih _ _ hp hm
  | eos f ih =>
    rw [run_eos, run_eos, he _ hp]
    cases eosAns k₂ d cl s.pos with
    | ok b => exact ih b _ hp hm
    | wait => rfl
    | eos => rfl
  | tell f ih => exact ih _ _ hp hm
  | seekBack n p ih =>
    rw [run_seekBack, run_seekBack]
    split
    · exact ih _ (Nat.le_trans (Nat.sub_le ..) hp) hm
    · rfl
  | mark p ih =>
    show run k₁ B d cl p (s.setMark k₁ B) = run k₂ B d cl p (s.setMark k₂ B)
    rw [hs s hp]
    have := setMark_pos k₂ B s
    exact ih _ (this.1 ▸ hp) (this.2 ▸ hp)
  | toMark f ih => exact ih _ _ hm hm

/-- when all the data fits the buffer no mark can trigger a drop, and a program cannot tell the
    wrapped stream from a seekable one -/
theorem run_wrapped_eq_seekable (B : Nat) (d : Bytes) (cl : Bool) (hd : d.length ≤ B)
    (p : Prog ε α) (s : St ε) (hp : s.pos ≤ d.length) (hm : s.mark ≤ d.length) :
    run .wrapped B d cl p s = run .seekable B d cl p s := by
  refine run_kind_congr .wrapped .seekable B d cl (readAns_wrapped d cl) (readAllAns_wrapped d cl)
    (fun pos _ => eosAns_wrapped d cl pos) (fun s hs => ?_) p s hp hm
  have : ¬ B < s.pos - s.base := Nat.not_lt.mpr (Nat.le_trans (Nat.sub_le ..) (Nat.le_trans hs hd))
  simp [St.setMark, this]

end Asn1.Stream
