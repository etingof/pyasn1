/-
  Proofs.StrictEverywhere — a rejection at one element is a rejection of every element that contains it.
  `Rep P x x'`: the tree `x'` is `x` with exactly one sub-element `y` (at any depth) replaced by `y'`,
  where `P y y'`.  If the replacement keeps the identifier's class and number and turns acceptance of
  `y` into rejection of `y'` for every guiding type (`Rej`), it does the same for `x` and `x'`: the
  decoder reaches the element whatever surrounds it, and an error there is the error of the whole.
-/
import Asn1.Decoder
import Proofs.DecTags
import Proofs.DecInduct

namespace Asn1

inductive Rep (P : TLV → TLV → Prop) : TLV → TLV → Prop
  | here {y y' : TLV} : P y y' → Rep P y y'
  | child {hd hd' : Bytes} {tg : Tag} {indef : Bool} {pre post : List TLV} {c c' : TLV} :
      Rep P c c' →
      Rep P (.cons hd tg indef (pre ++ c :: post)) (.cons hd' tg indef (pre ++ c' :: post))

mutual
/-- guiding types of the theorem: no ANY (an ANY captures octets without looking inside); with
    `iu`, no IMPLICIT tag of class UNIVERSAL and no string kind numbered 1 (so that the identifier
    `[UNIVERSAL 1]` determines the type BOOLEAN) -/
def Ty.good (iu : Bool) : Ty → Bool
  | .any => false
  | .prim (.str k) => !iu || k != 1
  | .prim _ => true
  | .seq fs => Fields.good iu fs
  | .set fs => Fields.good iu fs
  | .choice fs => Fields.good iu fs
  | .seqOf t => t.good iu
  | .setOf t => t.good iu
  | .tagged true _ _ t => t.good iu
  | .tagged false c _ t => (!iu || c != .universal) && t.good iu
def Fields.good (iu : Bool) : Fields → Bool
  | .nil => true
  | .cons _ t r => t.good iu && Fields.good iu r
end

/-- no decoder of a constructed string form is installed (DER) -/
def DecCfg.noCons (cfg : DecCfg) : Bool := !cfg.consBits && cfg.consStr.isEmpty

/-- acceptance of `x` becomes rejection of `x'`, under every guiding type -/
structure Rej (cfg : DecCfg) (iu : Bool) (x x' : TLV) : Prop where
  ty : ∀ t, Ty.good iu t = true → ∀ v, decTy cfg t x = .ok v → ∃ e, decTy cfg t x' = .error e
  body : ∀ t, Ty.good iu t = true → (iu = true → x.tag.cls ≠ .universal) →
    ∀ v, decBody cfg t x = .ok v → ∃ e, decBody cfg t x' = .error e
  seg : cfg.noCons = false → ∀ w, decSegment 4 x = .ok w → ∃ e, decSegment 4 x' = .error e
  bit : cfg.noCons = false → ∀ pre post w, decBitSegments (pre ++ x :: post) = .ok w →
    ∃ e, decBitSegments (pre ++ x' :: post) = .error e
  tag : x'.tag.cls = x.tag.cls ∧ x'.tag.num = x.tag.num

theorem accepts_same (t : Ty) (a b : Tag) (h : b.cls = a.cls ∧ b.num = a.num) :
    t.accepts b = t.accepts a := by
  unfold Ty.accepts
  cases t.outerTags with
  | none => rfl
  | some l => simp only [Tag.same, h.1, h.2]

theorem rej_map {α β} {r r' : Res α} {f g : α → β} (h : ∀ v, r = .ok v → ∃ e, r' = .error e)
    (w : β) (hw : r.map f = .ok w) : ∃ e, r'.map g = .error e := by
  obtain ⟨v, hv, _⟩ := Res.map_eq_ok.mp hw
  obtain ⟨e, he⟩ := h v hv
  exact ⟨e, by rw [he]; rfl⟩

theorem rej_bind_left {α β} {r r' : Res α} {k k' : α → Res β}
    (h : ∀ v, r = .ok v → ∃ e, r' = .error e) (w : β) (hw : r.bind k = .ok w) :
    ∃ e, r'.bind k' = .error e := by
  obtain ⟨v, hv, _⟩ := Res.bind_eq_ok.mp hw
  obtain ⟨e, he⟩ := h v hv
  exact ⟨e, by rw [he]; rfl⟩

theorem rej_bind_right {α β} {r : Res α} {k k' : α → Res β}
    (h : ∀ a w, k a = .ok w → ∃ e, k' a = .error e) (w : β) (hw : r.bind k = .ok w) :
    ∃ e, r.bind k' = .error e := by
  obtain ⟨v, hv, hk⟩ := Res.bind_eq_ok.mp hw
  obtain ⟨e, he⟩ := h v w hk
  exact ⟨e, by rw [hv]; exact he⟩

/-- the identifier comparison comes out the same on both elements, so a rejection by `decBody`
    is one by `decTy` -/
theorem rej_ty_of_body (cfg : DecCfg) {t : Ty} {o : TagClass × Nat} (ho : t.outer = some o)
    {x x' : TLV} (htag : x'.tag.cls = x.tag.cls ∧ x'.tag.num = x.tag.num)
    (hB : ∀ v, decBody cfg t x = .ok v → ∃ e, decBody cfg t x' = .error e) (v : Val)
    (h : decTy cfg t x = .ok v) : ∃ e, decTy cfg t x' = .error e := by
  obtain ⟨ht, hb⟩ := (decTy_eq_ok ho).mp h
  rw [decTy_eq_decBody cfg ho, htag.1, htag.2, if_pos ht]
  exact hB v hb

section
variable (cfg : DecCfg) (iu : Bool) {x x' : TLV}
  (htag : x'.tag.cls = x.tag.cls ∧ x'.tag.num = x.tag.num)
  (hT : ∀ t o, t.outer = some o → Ty.good iu t = true →
    ∀ v, decTy cfg t x = .ok v → ∃ e, decTy cfg t x' = .error e)
include htag hT

/- CHOICE dispatch looks at the identifier only, so it finds the same alternative for both
   elements, and that alternative is a smaller type. -/
mutual
theorem rej_ty : ∀ (t : Ty), Ty.good iu t = true →
    ∀ v, decTy cfg t x = .ok v → ∃ e, decTy cfg t x' = .error e
  | .choice fs, hg, v, h => by rw [decTy] at h ⊢; exact rej_alt fs hg 0 v h
  | .any, hg, _, _ => by cases hg
  | .tagged .., hg, v, h | .prim _, hg, v, h | .seq _, hg, v, h | .set _, hg, v, h
  | .seqOf _, hg, v, h | .setOf _, hg, v, h => hT _ _ rfl hg v h
theorem rej_alt : ∀ (fs : Fields), Fields.good iu fs = true → ∀ (i : Nat) (v : Val),
    decAlt cfg fs i x = .ok v → ∃ e, decAlt cfg fs i x' = .error e
  | .nil => fun _ _ _ h => by rw [decAlt] at h; cases h
  | .cons k t rest => fun hg i v h => by
    have hg := Bool.and_eq_true_iff.mp hg
    rw [decAlt] at h ⊢
    rw [accepts_same t x.tag x'.tag htag]
    split at h <;> rename_i ha
    · rw [if_pos ha]; exact rej_map (rej_ty t hg.1) v h
    · rw [if_neg ha]; exact rej_alt rest hg.2 (i + 1) v h
end

end

/-- a walker that decodes the elements one after the other (`decSegments`, `decElems`) stops at the
    replaced one -/
theorem walk_step {α} {f : TLV → Res α} {g : List TLV → Res (List α)}
    (hg : ∀ t rest, g (t :: rest) = (f t).bind fun a => (g rest).map (a :: ·)) {c c' : TLV}
    (hc : ∀ w, f c = .ok w → ∃ e, f c' = .error e) :
    ∀ (pre post : List TLV) (w : List α), g (pre ++ c :: post) = .ok w →
      ∃ e, g (pre ++ c' :: post) = .error e
  | [], post => by
    rw [List.nil_append, List.nil_append, hg, hg]
    exact rej_bind_left hc
  | p :: pre, post => by
    rw [List.cons_append, List.cons_append, hg, hg]
    exact rej_bind_right fun _ => rej_map (walk_step hg hc pre post)

theorem bitsegs_not_ok (y : TLV) (hy : ∀ rest, decBitSegments (y :: rest) = .error .malformed) :
    ∀ (pre post : List TLV) (w : List Bytes), decBitSegments (pre ++ y :: post) = .ok w → False
  | [] => fun post w h => by rw [List.nil_append, hy] at h; cases h
  | .prim h0 t0 c0 :: pre => fun post w h => by
    rw [List.cons_append, decBitSegments, Res.ite_eq_ok] at h
    obtain ⟨w', hw', _⟩ := Res.map_eq_ok.mp h.2
    exact bitsegs_not_ok y hy pre post w' hw'
  | .cons .. :: pre => fun post w h => by rw [List.cons_append, decBitSegments] at h; cases h

/-- SET-member lookup is CHOICE dispatch that also returns the index -/
theorem member_step (cfg : DecCfg) (iu : Bool) (c c' : TLV)
    (hc : ∀ t, Ty.good iu t = true → ∀ v, decTy cfg t c = .ok v → ∃ e, decTy cfg t c' = .error e)
    (htag : c'.tag.cls = c.tag.cls ∧ c'.tag.num = c.tag.num) (fs : Fields) (i : Nat) (r : Nat × Val)
    (hg : Fields.good iu fs = true) (h : decMember cfg fs i c = .ok r) :
    ∃ e, decMember cfg fs i c' = .error e := by
  obtain ⟨e, he⟩ := rej_alt cfg iu htag (fun t _ _ => hc t) fs hg i (.choice r.1 r.2)
    (by rw [decAlt_eq_member, h]; rfl)
  rw [decAlt_eq_member] at he
  cases hm : decMember cfg fs i c' with
  | ok _ => rw [hm] at he; cases he
  | error e' => exact ⟨e', rfl⟩

theorem set_step (cfg : DecCfg) (iu : Bool) (c c' : TLV)
    (hc : ∀ t, Ty.good iu t = true → ∀ v, decTy cfg t c = .ok v → ∃ e, decTy cfg t c' = .error e)
    (htag : c'.tag.cls = c.tag.cls ∧ c'.tag.num = c.tag.num) (fs : Fields)
    (hg : Fields.good iu fs = true) :
    ∀ (pre post : List TLV) (acc vs : List Val), decSet cfg fs (pre ++ c :: post) acc = .ok vs →
      ∃ e, decSet cfg fs (pre ++ c' :: post) acc = .error e
  | [] => fun post acc => by
    rw [List.nil_append, List.nil_append, decSet_cons, decSet_cons]
    exact rej_bind_left fun r => member_step cfg iu c c' hc htag fs 0 r hg
  | p :: pre => fun post acc => by
    rw [List.cons_append, List.cons_append, decSet_cons, decSet_cons]
    exact rej_bind_right fun r => set_step cfg iu c c' hc htag fs hg pre post _

theorem fields_step (cfg : DecCfg) (iu : Bool) (c c' : TLV)
    (hc : ∀ t, Ty.good iu t = true → ∀ v, decTy cfg t c = .ok v → ∃ e, decTy cfg t c' = .error e)
    (htag : c'.tag.cls = c.tag.cls ∧ c'.tag.num = c.tag.num) :
    ∀ (fs : Fields) (pre post : List TLV) (vs : List Val), Fields.good iu fs = true →
      decFields cfg fs (pre ++ c :: post) = .ok vs →
      ∃ e, decFields cfg fs (pre ++ c' :: post) = .error e
  | .nil => fun pre post vs _ h => by cases pre <;> simp [decFields] at h
  | .cons k t rest => fun pre post ws hg h => by
    rw [Fields.good, Bool.and_eq_true] at hg
    have hacc := accepts_same t c.tag c'.tag htag
    rcases decFields_cons_ok.mp h with ⟨p, cs', v, vs, hcs, hk, hv, hvs, _⟩ | ⟨d, vs, hd, hn, hvs, _⟩
    · -- the member takes the first element: the replaced one, or one before it
      cases pre with
      | nil =>
        cases hcs
        obtain ⟨e, he⟩ := hc t hg.1 v hv
        exact ⟨e, by rw [List.nil_append, decFields_take cfg rest post (hacc ▸ hk), he]; rfl⟩
      | cons p' pre =>
        cases hcs
        obtain ⟨e, he⟩ := fields_step cfg iu c c' hc htag rest pre post vs hg.2 hvs
        exact ⟨e, by rw [List.cons_append, decFields_take cfg rest _ hk, hv, he]; rfl⟩
    · -- the member is filled in: the elements go to the members that follow
      obtain ⟨e, he⟩ := fields_step cfg iu c c' hc htag rest pre post vs hg.2 hvs
      have hn' : ∀ x cs', pre ++ c' :: post = x :: cs' → t.accepts x.tag = false := by
        intro x cs' hx
        cases pre with
        | nil => cases hx; rw [hacc]; exact hn c post rfl
        | cons p' pre => cases hx; exact hn x _ rfl
      exact ⟨e, by rw [decFields_fill cfg rest hd hn', he]; rfl⟩

theorem only_step {f : TLV → Res Val} {c c' : TLV} (hc : ∀ v, f c = .ok v → ∃ e, f c' = .error e)
    (hd hd' : Bytes) (tg : Tag) (indef : Bool) (pre post : List TLV) (v : Val)
    (h : onlyChild f (.cons hd tg indef (pre ++ c :: post)) = .ok v) :
    ∃ e, onlyChild f (.cons hd' tg indef (pre ++ c' :: post)) = .error e := by
  obtain ⟨_, _, _, y, hx, hy⟩ := onlyChild_ok.mp h
  injection hx with _ _ _ hl
  match pre, post, hl with
  | [], [], hl => cases hl; exact hc v hy
  | [], _ :: _, hl => cases hl
  | _ :: pre, _, hl => simp at hl

section
variable (cfg : DecCfg) (iu : Bool) (hd hd' : Bytes) (tg : Tag) (indef : Bool) (pre post : List TLV)
  (c c' : TLV) (hR : Rej cfg iu c c')
include hR

theorem up_prim (p : PrimTy) (v : Val)
    (h : decPrim cfg p (.cons hd tg indef (pre ++ c :: post)) = .ok v) :
    ∃ e, decPrim cfg p (.cons hd' tg indef (pre ++ c' :: post)) = .error e := by
  refine Res.error_of_not_ok fun w hw => ?_
  rcases decPrim_cons_ok.mp h with ⟨rfl, _, hb, fr, _, hfr, _⟩ | ⟨k, fs, rfl, hk, hfs, _⟩
  · have hn : cfg.noCons = false := by rw [DecCfg.noCons, hb]; rfl
    rcases decPrim_cons_ok.mp hw with ⟨_, _, _, fr', _, hfr', _⟩ | ⟨_, _, hp, _⟩
    · obtain ⟨e, he⟩ := hR.bit hn pre post fr hfr
      rw [he] at hfr'; cases hfr'
    · cases hp
  · have hn : cfg.noCons = false := by
      cases hl : cfg.consStr with
      | nil => rw [hl] at hk; cases hk
      | cons _ _ => rw [DecCfg.noCons, hl]; exact Bool.and_false _
    rcases decPrim_cons_ok.mp hw with ⟨hp, _⟩ | ⟨_, fs', _, _, hfs', _⟩
    · cases hp
    · obtain ⟨e, he⟩ := walk_step (decSegments_cons 4) (hR.seg hn) pre post fs hfs
      rw [he] at hfs'; cases hfs'

theorem up_body : ∀ (t : Ty), Ty.good iu t = true →
    ∀ v, decBody cfg t (.cons hd tg indef (pre ++ c :: post)) = .ok v →
      ∃ e, decBody cfg t (.cons hd' tg indef (pre ++ c' :: post)) = .error e
  | .tagged true cls num t, hg, v, h => by
    rw [decBody_explicit] at h ⊢
    exact only_step (hR.ty t hg) hd hd' tg indef pre post v h
  | .tagged false cls num t, hg, v, h => by
    rw [decBody] at h ⊢; exact up_body t (Bool.and_eq_true_iff.mp hg).2 v h
  | .prim p, _, v, h => by
    rw [decBody] at h ⊢; exact up_prim cfg iu hd hd' tg indef pre post c c' hR p v h
  | .any, hg, _, _ => by cases hg
  | .seq fs, hg, v, h => by
    rw [decBody] at h ⊢
    exact rej_map (fields_step cfg iu c c' hR.ty hR.tag fs pre post · hg) v h
  | .set fs, hg, v, h => by
    rw [decBody_set] at h ⊢
    exact rej_bind_left (set_step cfg iu c c' hR.ty hR.tag fs hg pre post _) v h
  | .seqOf t, hg, v, h | .setOf t, hg, v, h => by
    rw [decBody] at h ⊢
    exact rej_map (walk_step (decElems_cons cfg t) (hR.ty t hg) pre post) v h
  | .choice fs, hg, v, h => by
    -- a tagged CHOICE acts as an explicit wrapper: the only child is decoded against the CHOICE
    rw [decBody_choice] at h ⊢
    exact only_step (fun v h => by rw [← decTy] at h ⊢; exact hR.ty (.choice fs) hg v h)
      hd hd' tg indef pre post v h

theorem up_alt : ∀ (fs : Fields), Fields.good iu fs = true → ∀ (i : Nat) (v : Val),
    decAlt cfg fs i (.cons hd tg indef (pre ++ c :: post)) = .ok v →
    ∃ e, decAlt cfg fs i (.cons hd' tg indef (pre ++ c' :: post)) = .error e :=
  rej_alt cfg iu ⟨rfl, rfl⟩ fun t _ ho hg =>
    rej_ty_of_body cfg ho ⟨rfl, rfl⟩ (up_body cfg iu hd hd' tg indef pre post c c' hR t hg)

theorem rej_up : Rej cfg iu (.cons hd tg indef (pre ++ c :: post)) (.cons hd' tg indef (pre ++ c' :: post)) where
  ty := rej_ty cfg iu ⟨rfl, rfl⟩ fun t _ ho hg =>
    rej_ty_of_body cfg ho ⟨rfl, rfl⟩ (up_body cfg iu hd hd' tg indef pre post c c' hR t hg)
  body := fun t hg _ => up_body cfg iu hd hd' tg indef pre post c c' hR t hg
  seg := fun hn w h => by
    rw [decSegment, Res.ite_eq_ok] at h
    rw [decSegment, if_pos h.1]
    exact rej_map (walk_step (decSegments_cons 4) (hR.seg hn) pre post) w h.2
  bit := by
    intro _ pre' post' w h
    exact (bitsegs_not_ok _ (fun _ => by rw [decBitSegments]) pre' post' w h).elim
  tag := ⟨rfl, rfl⟩

end

/-- **a rejection at one element is a rejection of every element that contains it** -/
theorem rep_rej (cfg : DecCfg) (iu : Bool) (P : TLV → TLV → Prop)
    (hP : ∀ y y', P y y' → Rej cfg iu y y') : ∀ {x x' : TLV}, Rep P x x' → Rej cfg iu x x' := by
  intro x x' h
  induction h with
  | here hp => exact hP _ _ hp
  | child _ ih => exact rej_up cfg iu _ _ _ _ _ _ _ _ ih

def PrimToCons (y y' : TLV) : Prop :=
  ∃ hd tg c hd' tg' i cs, y = .prim hd tg c ∧ y' = .cons hd' tg' i cs ∧ tg'.cls = tg.cls ∧ tg'.num = tg.num

theorem decPrim_cons_noCons (cfg : DecCfg) (hn : cfg.noCons = true) (p : PrimTy) (h : Bytes) (t : Tag)
    (i : Bool) (cs : List TLV) : ∃ e, decPrim cfg p (.cons h t i cs) = .error e := by
  simp only [DecCfg.noCons, Bool.and_eq_true, Bool.not_eq_true', List.isEmpty_iff] at hn
  refine Res.error_of_not_ok fun w hw => ?_
  rcases decPrim_cons_ok.mp hw with ⟨_, _, hb, _⟩ | ⟨_, _, _, hk, _⟩
  · rw [hn.1] at hb; cases hb
  · rw [hn.2] at hk; cases hk

section
variable (cfg : DecCfg) (hn : cfg.noCons = true) (hd : Bytes) (tg : Tag) (c : Bytes) (hd' : Bytes) (tg' : Tag)
  (i : Bool) (cs : List TLV) (htg : tg'.cls = tg.cls ∧ tg'.num = tg.num)
include hn htg

omit htg in
theorem pc_body : ∀ (t : Ty), Ty.good false t = true →
    ∀ v, decBody cfg t (.prim hd tg c) = .ok v → ∃ e, decBody cfg t (.cons hd' tg' i cs) = .error e
  | .tagged true cls num t, _, v, h => by rw [decBody_explicit_prim] at h; cases h
  | .tagged false cls num t, hg, v, h => by
    rw [decBody] at h ⊢; exact pc_body t (Bool.and_eq_true_iff.mp hg).2 v h
  | .prim p, _, _, _ => by rw [decBody]; exact decPrim_cons_noCons cfg hn p hd' tg' i cs
  | .any, hg, _, _ => by cases hg
  | .seq _, _, v, h | .set _, _, v, h | .seqOf _, _, v, h | .setOf _, _, v, h | .choice _, _, v, h => by
    simp [decBody] at h

theorem pc_alt : ∀ (fs : Fields), Fields.good false fs = true → ∀ (k : Nat) (v : Val),
    decAlt cfg fs k (.prim hd tg c) = .ok v → ∃ e, decAlt cfg fs k (.cons hd' tg' i cs) = .error e :=
  rej_alt cfg false htg fun t _ ho hg =>
    rej_ty_of_body cfg ho htg (pc_body cfg hn hd tg c hd' tg' i cs t hg)

end

theorem primToCons_rej (cfg : DecCfg) (hn : cfg.noCons = true) (y y' : TLV) (h : PrimToCons y y') :
    Rej cfg false y y' := by
  obtain ⟨hd, tg, c, hd', tg', i, cs, rfl, rfl, htg⟩ := h
  exact
    { ty := rej_ty cfg false htg fun t _ ho hg =>
        rej_ty_of_body cfg ho htg (pc_body cfg hn hd tg c hd' tg' i cs t hg)
      body := fun t hg _ => pc_body cfg hn hd tg c hd' tg' i cs t hg
      seg := fun h0 => by rw [hn] at h0; cases h0
      bit := fun h0 => by rw [hn] at h0; cases h0
      tag := htg }

def BadBool (y y' : TLV) : Prop :=
  ∃ hd hd' tg c c', y = .prim hd tg c ∧ y' = .prim hd' tg c' ∧ tg.cls = .universal ∧ tg.num = 1 ∧
    c' ≠ [0x00] ∧ c' ≠ [0xFF]

theorem decPrim_bool_bad (cfg : DecCfg) (hs : cfg.boolStrict = true) (h : Bytes) (tg : Tag) (c : Bytes)
    (h0 : c ≠ [0x00]) (h1 : c ≠ [0xFF]) : ∃ e, decPrim cfg .boolean (.prim h tg c) = .error e :=
  Res.error_of_not_ok fun w hw => by
    rcases (decPrim_bool_strict hs).mp hw with ⟨rfl, _⟩ | ⟨rfl, _⟩
    · exact h0 rfl
    · exact h1 rfl

theorem univNum_one (p : PrimTy) (hg : Ty.good true (.prim p) = true) (h : 1 = p.univNum) : p = .boolean := by
  cases p <;> simp [PrimTy.univNum] at h
  · rfl
  · subst h; simp [Ty.good] at hg

section
variable (cfg : DecCfg) (hs : cfg.boolStrict = true) (hd hd' : Bytes) (tg : Tag) (c c' : Bytes)
  (hu : tg.cls = .universal) (h1 : tg.num = 1) (hc0 : c' ≠ [0x00]) (hc1 : c' ≠ [0xFF])
include hs hu h1 hc0 hc1

/-- under a type that has an identifier of its own: the identifier `[UNIVERSAL 1]` passes the
    comparison only if the type is BOOLEAN -/
theorem bb_outer : ∀ (t : Ty) (o : TagClass × Nat), t.outer = some o → Ty.good true t = true →
    ∀ v, decTy cfg t (.prim hd tg c) = .ok v → ∃ e, decTy cfg t (.prim hd' tg c') = .error e
  | .tagged true cls num t, _, _, _, v, h => by rw [decTy_explicit_prim] at h; cases h
  | .tagged false cls num t, _, _, hg, v, h => by
    -- an IMPLICIT tag of a good type is not UNIVERSAL, the identifier is
    simp only [Ty.good, Bool.not_true, Bool.false_or, Bool.and_eq_true, bne_iff_ne, ne_eq] at hg
    rw [decTy_eq_ok rfl] at h
    exact absurd (h.1.1.symm.trans hu) hg.1
  | .prim p, _, _, hg, v, h => by
    have hp := h
    rw [decTy_eq_ok rfl] at hp
    cases univNum_one p hg (h1.symm.trans hp.1.2)
    exact rej_ty_of_body cfg (x := .prim hd tg c) (x' := .prim hd' tg c') rfl ⟨rfl, rfl⟩
      (fun _ _ => by rw [decBody]; exact decPrim_bool_bad cfg hs hd' tg c' hc0 hc1) v h
  | .seq _, _, _, _, v, h | .seqOf _, _, _, _, v, h => by
    rw [decTy_eq_ok rfl] at h
    exact absurd (h1.symm.trans h.1.2) (by decide)
  | .set _, _, _, _, v, h | .setOf _, _, _, _, v, h => by
    rw [decTy_eq_ok rfl] at h
    exact absurd (h1.symm.trans h.1.2) (by decide)

theorem bb_alt : ∀ (fs : Fields), Fields.good true fs = true → ∀ (k : Nat) (v : Val),
    decAlt cfg fs k (.prim hd tg c) = .ok v → ∃ e, decAlt cfg fs k (.prim hd' tg c') = .error e :=
  rej_alt cfg true ⟨rfl, rfl⟩ (bb_outer cfg hs hd hd' tg c c' hu h1 hc0 hc1)

end

theorem badBool_rej (cfg : DecCfg) (hs : cfg.boolStrict = true) (y y' : TLV) (h : BadBool y y') :
    Rej cfg true y y' := by
  obtain ⟨hd, hd', tg, c, c', rfl, rfl, hu, h1, hc0, hc1⟩ := h
  exact
    { ty := rej_ty cfg true ⟨rfl, rfl⟩ (bb_outer cfg hs hd hd' tg c c' hu h1 hc0 hc1)
      body := fun t _ hne => absurd hu (hne rfl)
      seg := fun _ w hw => by simp [decSegment, h1] at hw
      bit := fun _ pre post w hw =>
        (bitsegs_not_ok _ (fun _ => by simp [decBitSegments, h1]) pre post w hw).elim
      tag := ⟨rfl, rfl⟩ }

end Asn1
