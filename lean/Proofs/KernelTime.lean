/-
  Proofs.KernelTime — the CER/DER time canonicaliser as it is in the source
  (`TimeEncoderMixIn.encodeValue`, translated into `GenK.timeCanon` on every run) computes the model's
  `canonTime` (Asn1/Time.lean), about which Props.C20 proves shape, instant preservation and refusals.
-/
import Proofs.KernelBase
import Proofs.TimeCanon

namespace Asn1.Kernels
open Py Asn1.Time

/-- a text as the tuple of code points `asNumbers()` returns -/
def I (s : List Char) : Py.Tup := s.map fun c => ((c.toNat : Nat) : Int)

theorem throw_eq' {α} (e : PyErr) : (throw e : Py.M α) = .error e := rfl

theorem cI_inj (c d : Char) : (((c.toNat : Nat) : Int) = ((d.toNat : Nat) : Int)) ↔ c = d :=
  Int.ofNat_inj.trans Char.toNat_inj

theorem mem_I (c : Char) (s : List Char) : Py.mem ((c.toNat : Nat) : Int) (I s) = decide (c ∈ s) := by
  induction s with
  | nil => simp [Py.mem, I]
  | cons d t ih =>
    simp only [Py.mem, I, List.map_cons, List.contains_cons, List.mem_cons] at ih ⊢
    rw [ih]
    by_cases h : c = d
    · subst h; simp
    · have : ¬ (((c.toNat : Nat) : Int) = ((d.toNat : Nat) : Int)) := fun e => h ((cI_inj c d).mp e)
      simp [h, this]

theorem len_I (s : List Char) : Py.len (I s) = ((s.length : Nat) : Int) := len_map _ s

theorem idx_I (s : List Char) (i : Nat) (h : i < s.length) :
    Py.idx (I s) (i : Int) = .ok ((s[i].toNat : Nat) : Int) := idx_map _ s i h

theorem delAt_I (s : List Char) (i : Nat) (h : i < s.length) :
    Py.delAt (I s) (i : Int) = .ok (I (s.eraseIdx i)) := delAt_map _ s i h

/-- reading and deleting at the seam of two pieces -/
theorem idx_I_seam (l r : List Char) (x : Char) :
    Py.idx (I (l ++ x :: r)) (l.length : Int) = .ok ((x.toNat : Nat) : Int) := by
  rw [idx_I _ _ (by simp), List.getElem_append_right (Nat.le_refl _)]
  simp

theorem delAt_I_seam (l r : List Char) (x : Char) :
    Py.delAt (I (l ++ x :: r)) (l.length : Int) = .ok (I (l ++ r)) := by
  rw [delAt_I _ _ (by simp), List.eraseIdx_append_of_length_le (Nat.le_refl _)]
  simp

/-- one turn of the backward scan, the index on an `x` other than the dot (at the seam of `l` and `x :: r`):
    a `0` is deleted, the index moves left -/
theorem time_loop_step (l r : List Char) (x : Char) (hx : x ≠ '.') (m : Bool) (f : Nat) :
    GenK.timeCanon_loop1 (f + 1) (I (l ++ x :: r)) m (l.length : Int) =
      GenK.timeCanon_loop1 f (I (l ++ if x = '0' then r else x :: r)) (m || decide (x = '0')) ((l.length : Int) - 1) := by
  have hne : ((x.toNat : Nat) : Int) ≠ 46 := fun e => hx ((cI_inj x '.').mp e)
  have h0 : (((x.toNat : Nat) : Int) = 48) = (x = '0') := propext (cI_inj x '0')
  rw [GenK.timeCanon_loop1]
  simp only [bind, Except.bind, idx_I_seam, hne, ne_eq, not_false_eq_true, decide_true, if_true, h0]
  by_cases hz : x = '0'
  · simp only [hz, decide_true, if_true, delAt_I_seam, pure, Except.pure, Bool.or_true]
  · simp only [hz, decide_false, Bool.false_eq_true, if_false, pure, Except.pure, Bool.or_false]

theorem time_loop_stop (l r : List Char) (m : Bool) (f : Nat) :
    GenK.timeCanon_loop1 (f + 1) (I (l ++ '.' :: r)) m (l.length : Int) = .ok (I (l ++ '.' :: r), m, (l.length : Int)) := by
  rw [GenK.timeCanon_loop1]
  simp only [bind, Except.bind, idx_I_seam]
  rfl

/-- **the backward scan**: from the index behind `ra.reverse` down to the dot, every `0` is deleted (`ra` is what lies
    between the dot and the index, in the order in which the scan meets it; `b` is what it has left behind) -/
theorem time_loop_spec (pre : List Char) : ∀ (ra b : List Char) (m : Bool) (fuel : Nat), '.' ∉ ra → ra.length < fuel →
    ∃ m', GenK.timeCanon_loop1 fuel (I ((pre ++ '.' :: ra.reverse) ++ b)) m (((pre ++ '.' :: ra.reverse).length : Int) - 1) =
      .ok (I (pre ++ '.' :: (ra.reverse.filter (· ≠ '0') ++ b)), m', (pre.length : Int))
  | _, _, _, 0, _, hf => absurd hf (Nat.not_lt_zero _)
  | [], b, m, f + 1, _, _ => ⟨m, by
      have := time_loop_stop pre b m f
      simpa using this⟩
  | x :: ra, b, m, f + 1, hdot, hf => by
    obtain ⟨hx, hra⟩ : x ≠ '.' ∧ '.' ∉ ra := by simpa [eq_comm] using hdot
    obtain ⟨m', ih⟩ := time_loop_spec pre ra (if x = '0' then b else x :: b) (m || decide (x = '0')) f hra
      (Nat.lt_of_succ_lt_succ hf)
    refine ⟨m', ?_⟩
    have hL : (pre ++ '.' :: (x :: ra).reverse) ++ b = (pre ++ '.' :: ra.reverse) ++ x :: b := by simp
    have hi : (((pre ++ '.' :: (x :: ra).reverse).length : Nat) : Int) - 1 = ((pre ++ '.' :: ra.reverse).length : Int) := by
      simp only [List.reverse_cons, List.length_append, List.length_cons, List.length_nil]; omega
    rw [hL, hi, time_loop_step _ _ x hx, ih]
    by_cases hz : x = '0' <;> simp [hz, List.filter_append]

def liftTime : TRes (List Char) → Py.M Py.Tup
  | .ok s => .ok (I s)
  | .error .liberr => .error (.lib "PyAsn1Error")
  | .error (.leak _) => .error .indexError

theorem liftTime_eq_ok : ∀ {x : TRes (List Char)} {r : Py.Tup}, liftTime x = .ok r → ∃ s, x = .ok s ∧ r = I s
  | .ok s, _, h => ⟨s, rfl, (Except.ok.inj h).symm⟩
  | .error .liberr, _, h => nomatch h
  | .error (.leak _), _, h => nomatch h

/-- `numbers[-1]` -/
theorem idx_I_last (s : List Char) (l : Char) (h : s.getLast? = some l) :
    Py.idx (I s) (-1) = .ok ((l.toNat : Nat) : Int) := by
  obtain ⟨s', rfl⟩ := List.getLast?_eq_some_iff.mp h
  have hj : (-1 : Int) + ((I (s' ++ [l])).length : Int) = (s'.length : Int) := by
    simp only [I, List.length_map, List.length_append, List.length_singleton]; omega
  have e : Py.idx (I (s' ++ [l])) (-1) = Py.idx (I (s' ++ [l])) (s'.length : Int) := by
    simp only [Py.idx]
    rw [if_pos (show (-1 : Int) < 0 by decide), if_neg (show ¬ ((s'.length : Int) < 0) by omega), hj]
  rw [e, idx_I_seam]

/-- the final length test against the kind's `MIN_LENGTH` / `MAX_LENGTH` -/
theorem lengthTest_eq (k : Kind) (s : List Char) :
    (if (!(decide ((k.minLength : Int) < Py.len (I s)) && decide (Py.len (I s) < (k.maxLength : Int)))) = true then
        (throw (PyErr.lib "PyAsn1Error") : Py.M Py.Tup) else pure (I s)) =
      liftTime (if k.minLength < s.length ∧ s.length < k.maxLength then .ok s else .error .liberr) := by
  simp only [len_I, Int.ofNat_lt, ← Bool.decide_and]
  by_cases h : k.minLength < s.length ∧ s.length < k.maxLength <;>
    simp only [h, decide_false, Bool.not_false, if_true, if_false] <;> rfl

/-- **the CER/DER time canonicaliser as it is in the source computes the model's `canonTime`** - every text,
    both time types (their `MIN_LENGTH` / `MAX_LENGTH` are the kind's) -/
theorem timeCanon_kernel (k : Kind) (s : List Char) :
    GenK.timeCanon (k.maxLength : Int) (k.minLength : Int) (I s) = liftTime (canonTime k s) := by
  have hplus : Py.mem 43 (I s) = decide ('+' ∈ s) := mem_I '+' s
  have hminus : Py.mem 45 (I s) = decide ('-' ∈ s) := mem_I '-' s
  have hcomma : Py.mem 44 (I s) = decide (',' ∈ s) := mem_I ',' s
  have hdotm : Py.mem 46 (I s) = decide ('.' ∈ s) := mem_I '.' s
  unfold GenK.timeCanon canonTime
  rw [hplus, hminus, ← Bool.decide_or]
  by_cases hsign : '+' ∈ s ∨ '-' ∈ s
  · rw [if_pos (decide_eq_true hsign), if_pos hsign]; rfl
  · rw [if_neg (mt of_decide_eq_true hsign), if_neg hsign]
    cases hl : s.getLast? with
    | none =>
      obtain rfl : s = [] := by simpa using hl
      rfl
    | some l =>
      simp only [bind, Except.bind, idx_I_last s l hl, hcomma, hdotm]
      by_cases hz : l = 'Z'
      case neg =>
        have h90 : ((l.toNat : Nat) : Int) ≠ 90 := fun e => hz ((cI_inj l 'Z').mp e)
        simp only [h90, hz, ne_eq, not_false_eq_true, decide_true, if_true]; rfl
      subst hz
      simp only [show ((('Z' : Char).toNat : Nat) : Int) = 90 from rfl, ne_eq, not_true_eq_false, decide_false,
        Bool.false_eq_true, if_false]
      by_cases hc : ',' ∈ s
      case pos => rw [if_pos (decide_eq_true hc), if_pos hc]; rfl
      rw [if_neg (mt of_decide_eq_true hc), if_neg hc]
      -- what is left is the block that strips the fraction, then the length test on what it hands on
      generalize hR : (if decide ('.' ∈ s) = true then _ else pure (I s) : Py.M Py.Tup) = R
      obtain rfl : R = .ok (I (if '.' ∈ s then stripFraction s else s)) := by
        subst hR
        by_cases hd : '.' ∈ s
        case neg => rw [if_neg (mt of_decide_eq_true hd), if_neg hd]; rfl
        rw [if_pos (decide_eq_true hd), if_pos hd]
        obtain ⟨pre, post, rfl, hp⟩ := exists_last_split hd
        obtain ⟨m', hloop⟩ :=
          time_loop_spec pre post.reverse [] false ((Py.len (I (pre ++ '.' :: post))).toNat + 1) (mt List.mem_reverse.mp hp)
            (by rw [len_I, List.length_reverse]; simp only [List.length_append, List.length_cons, Int.toNat_natCast]; omega)
        rw [List.reverse_reverse, List.append_nil, List.append_nil, ← len_I] at hloop
        rw [stripFraction_split pre post hp, hloop]
        -- after the scan the index is on the dot: a `Z` right behind it takes the dot away
        simp only [len_I, show ((pre.length : Nat) : Int) + 1 = (((pre ++ ['.']).length : Nat) : Int) by simp,
          Int.ofNat_lt]
        cases hpf : post.filter (· ≠ '0') with
        | nil =>
          simp only [Nat.lt_irrefl, decide_false, Bool.false_eq_true, if_false, pure, Except.pure, List.head?_nil,
            reduceCtorEq]
          cases m' <;> rfl
        | cons y ys =>
          have hL : pre ++ '.' :: y :: ys = (pre ++ ['.']) ++ y :: ys := by simp
          rw [hL]
          simp only [show (pre ++ ['.']).length < ((pre ++ ['.']) ++ y :: ys).length by simp, decide_true, if_true,
            idx_I_seam, List.head?_cons, Option.some.injEq]
          by_cases hyz : y = 'Z'
          · subst hyz
            have hdel := delAt_I_seam pre ('Z' :: ys) '.'
            simp only [show ((('Z' : Char).toNat : Nat) : Int) = 90 from rfl, decide_true, if_true,
              show (((pre ++ ['.']).length : Nat) : Int) - 1 = (pre.length : Int) by simp, ← hL, hdel, pure, Except.pure]
          · have h90 : ¬ (((y.toNat : Nat) : Int) = 90) := fun e => hyz ((cI_inj y 'Z').mp e)
            simp only [h90, decide_false, Bool.false_eq_true, if_false, pure, Except.pure, hyz, ← hL]
            cases m' <;> rfl
      exact lengthTest_eq k _

end Asn1.Kernels
