/-
  Proofs.X690Prim — the encoder model's header and contents octets equal those of the independent
  X.690 transcription (`Asn1.X690`): identifier, length, INTEGER, BIT STRING, OBJECT IDENTIFIER, REAL.
  The two sides share no code: `X690` lays numbers out by repeated division from the least
  significant end and finds the minimal width by search; `Prim` mirrors the Python encoders.
-/
import Asn1.X690
import Asn1.Prim
import Proofs.Digits
import Proofs.TagLen
import Proofs.PrimRT
import Proofs.RealRT

namespace Asn1

open X690

theorem digitsLE_rev (b : Nat) : ∀ (fuel n : Nat), n ≠ 0 → n < fuel →
    (digitsLE (b + 2) fuel n).reverse = beDigits b n
  | 0, n, _, hf => absurd hf (Nat.not_lt_zero n)
  | fuel + 1, n, hn, hf => by
    rw [beDigits_pos b n hn, digitsLE]
    by_cases hlt : n < b + 2
    · rw [if_pos hlt, Nat.div_eq_of_lt hlt, beDigits_zero, Nat.mod_eq_of_lt hlt]; rfl
    · have hq : n / (b + 2) ≠ 0 := Nat.pos_iff_ne_zero.mp (Nat.div_pos (Nat.le_of_not_lt hlt) (by omega))
      have hlt2 : n / (b + 2) < fuel :=
        Nat.lt_of_lt_of_le (Nat.div_lt_self (Nat.pos_of_ne_zero hn) (by omega)) (Nat.le_of_lt_succ hf)
      rw [if_neg hlt, List.reverse_cons, digitsLE_rev b fuel (n / (b + 2)) hq hlt2]

theorem digitsBE_eq (b n : Nat) (hn : n ≠ 0) : digitsBE (b + 2) n = beDigits b n :=
  digitsLE_rev b (n + 1) n hn (by omega)

theorem digitsBE_zero (b : Nat) : digitsBE (b + 2) 0 = [0] := by
  simp [digitsBE, digitsLE]

/-- continuation bit on all digits but the last: the two ways of writing it agree -/
theorem zipIdx_cont (f : Nat → UInt8) : ∀ (init : List Nat) (k total : Nat), total = k + init.length + 1 →
    (init.zipIdx k).map (fun (p : Nat × Nat) => f (if p.2 + 1 < total then p.1 + 128 else p.1))
      = init.map (fun d => f (d + 128))
  | [], _, _, _ => rfl
  | x :: xs, k, total, ht => by
    simp only [List.zipIdx_cons, List.map_cons, List.length_cons] at ht ⊢
    rw [zipIdx_cont f xs (k + 1) total (by omega)]
    have : k + 1 < total := by omega
    simp [this]

theorem cont_digits {ds : List Nat} (hne : ds ≠ []) :
    (ds.zipIdx.map fun (p : Nat × Nat) => UInt8.ofNat (if p.2 + 1 < ds.length then p.1 + 128 else p.1))
      = natsToBytes (ds.dropLast.map (· + 0x80)) ++ natsToBytes [ds.getLastD 0] := by
  have hs : ds.dropLast ++ [ds.getLastD 0] = ds := by
    rw [List.getLastD_eq_getLast?, List.getLast?_eq_some_getLast hne]
    exact List.dropLast_concat_getLast hne
  generalize ds.dropLast = init at hs
  generalize ds.getLastD 0 = last at hs
  subst hs
  rw [List.zipIdx_append, List.map_append, zipIdx_cont UInt8.ofNat init 0 _ (by simp)]
  simp [natsToBytes, List.zipIdx_cons]

theorem ident_eq (t : Tag) (ic : Bool) :
    ident t.cls (t.constructed || ic) t.num = encodeTag t ic := by
  unfold ident encodeTag
  by_cases hn : t.num ≤ 30
  · have : t.num < 31 := by omega
    simp only [hn, this, if_true]
    cases t.cls <;> rfl
  · have h31 : ¬ t.num < 31 := by omega
    have hne : t.num ≠ 0 := by omega
    simp only [hn, h31, if_false]
    rw [digitsBE_eq 126 t.num hne, cont_digits (beDigits_ne_nil 126 t.num hne)]
    cases t.cls <;> rfl

theorem len_eq (n : Nat) (l : Bytes) (h : encodeLength n = some l) : len n = l := by
  unfold len
  rcases encodeLength_cases h with ⟨hs, rfl⟩ | ⟨hs, -, rfl⟩
  · exact if_pos (Nat.le_of_lt_succ hs)
  · rw [if_neg (by omega), digitsBE_eq 254 n (by omega)]
    rfl

theorem pow256_pos (j : Nat) : (0 : Int) < 256 ^ j := Int.pow_pos (by decide)

theorem two_pow_full (j : Nat) : (2 : Int) ^ (8 * j) = 256 ^ j := by
  rw [Int.pow_mul]; rfl

theorem two_pow_half (j : Nat) : (2 : Int) ^ (8 * (j + 1) - 1) = 128 * 256 ^ j := by
  rw [show 8 * (j + 1) - 1 = 7 + 8 * j by omega, Int.pow_add, two_pow_full]; rfl

theorem lt_half : ∀ i : Nat, (i : Int) + 1 ≤ 128 * 256 ^ i
  | 0 => by decide
  | i + 1 => by
    have := lt_half i
    rw [Int.pow_succ]; omega

/-- the value fits in `j+1` octets of two's complement -/
def Fits (z : Int) (j : Nat) : Prop := -(128 * 256 ^ j) ≤ z ∧ z < 128 * 256 ^ j

theorem fits_div (z : Int) (j : Nat) : Fits z (j + 1) ↔ Fits (z / 256) j := by
  unfold Fits
  rw [Int.pow_succ, ← Int.mul_assoc, Int.le_ediv_iff_mul_le (by decide), Int.ediv_lt_iff_lt_mul (by decide),
    Int.neg_mul]

theorem fits_succ {z : Int} {j : Nat} (h : Fits z j) : Fits z (j + 1) := by
  unfold Fits at *
  have := pow256_pos j
  rw [Int.pow_succ]; omega

theorem fits_mono {z : Int} {i k : Nat} (h : Fits z i) (hik : i ≤ k) : Fits z k := by
  induction hik with
  | refl => exact h
  | step _ ih => exact fits_succ ih

theorem bytesToNat_concat (bs : Bytes) (b : UInt8) :
    bytesToNat (bs ++ [b]) = bytesToNat bs * 256 + b.toNat := by
  simp [bytesToNat, bytesToNats, ofBeDigits_append]

theorem emod_mul_256 (z N : Int) : z % (256 * N) = 256 * ((z / 256) % N) + z % 256 := by
  rw [Int.emod_def z (256 * N), Int.emod_def (z / 256) N, Int.emod_def z 256,
    ← Int.ediv_ediv_of_nonneg (by decide : (0 : Int) ≤ 256), Int.mul_assoc]
  generalize N * (z / 256 / N) = d
  omega

theorem intToBytes_spec (z : Int) : ∃ j, (intToBytes z).length = j + 1 ∧ Fits z j ∧
    (j = 0 ∨ ∃ i, j = i + 1 ∧ ¬ Fits z i) ∧
    (bytesToNat (intToBytes z) : Int) = z % (256 * 256 ^ j) := by
  induction z using intToBytes.induct with
  | case1 z hs =>
    refine ⟨0, ?_, ?_, Or.inl rfl, ?_⟩
    · rw [intToBytes_small z hs]; rfl
    · exact hs
    · rw [intToBytes_small z hs, ← List.nil_append [_], bytesToNat_concat, byte_of_emod, Int.pow_zero,
        Int.mul_one]
      show ((0 * 256 + (z % 256).toNat : Nat) : Int) = z % 256
      rw [Nat.zero_mul, Nat.zero_add, Int.toNat_of_nonneg (Int.emod_nonneg z (by decide))]
  | case2 z hs ih =>
    obtain ⟨j, hl, hf, hmin, hv⟩ := ih
    refine ⟨j + 1, ?_, ?_, Or.inr ⟨j, rfl, ?_⟩, ?_⟩
    · rw [intToBytes_big z hs, List.length_append, hl]; rfl
    · exact (fits_div z j).mpr hf
    · rcases hmin with rfl | ⟨i, rfl, hni⟩
      · exact hs
      · exact fun h => hni ((fits_div z i).mp h)
    · rw [intToBytes_big z hs, bytesToNat_concat, byte_of_emod]
      have h2 := Int.emod_nonneg z (by decide : (256 : Int) ≠ 0)
      rw [Int.pow_succ, Int.mul_comm (256 ^ j) 256, emod_mul_256 z (256 * 256 ^ j), Int.natCast_add,
        Int.natCast_mul, hv, Int.toNat_of_nonneg h2]
      omega

theorem intWidth_eq {z : Int} {K : Nat} (hW : Fits z K) (hmin : ∀ j, j < K → ¬ Fits z j) :
    ∀ (fuel k : Nat), k ≤ K → K - k < fuel → intWidth z fuel (k + 1) = K + 1
  | 0, _, _, hf => by omega
  | fuel + 1, k, hk, hf => by
    rw [intWidth, two_pow_half k]
    by_cases hkK : k = K
    · subst hkK; exact if_pos hW
    · have hlt : k < K := Nat.lt_of_le_of_ne hk hkK
      exact (if_neg (hmin k hlt)).trans (intWidth_eq hW hmin fuel (k + 1) hlt (by omega))

theorem intWidth_length (z : Int) : intWidth z (z.natAbs + 1) 1 = (intToBytes z).length := by
  obtain ⟨j, hl, hf, hmin, -⟩ := intToBytes_spec z
  rw [hl]
  rcases hmin with rfl | ⟨i, rfl, hni⟩
  · exact intWidth_eq hf (fun i hi => absurd hi (Nat.not_lt_zero i)) _ 0 (Nat.le_refl 0) (Nat.succ_pos _)
  · have hfuel : i + 1 - 0 < z.natAbs + 1 := by
      have := lt_half i
      unfold Fits at hni
      omega
    exact intWidth_eq hf (fun _ hi' h => hni (fits_mono h (Nat.le_of_lt_succ hi'))) _ 0
      (Nat.zero_le _) hfuel

theorem natsToBytes_pad_be256 (bs : Bytes) :
    natsToBytes (List.replicate (bs.length - (be256 (bytesToNat bs)).length) 0
      ++ be256 (bytesToNat bs)) = bs := by
  have := pad_beDigits_rev 254 (bytesToNats bs).reverse fun d hd =>
    bytesToNats_lt bs d (List.mem_reverse.mp hd)
  rw [List.reverse_reverse, bytesToNats, List.length_map, ← bytesToNats] at this
  exact (congrArg natsToBytes this).trans (natsToBytes_bytesToNats bs)

/-- `natsToBytes_pad_be256` with the transcription's digits, which write zero as one digit -/
theorem pad_digitsBE {bs : Bytes} (hne : bs ≠ []) :
    (List.replicate (bs.length - (digitsBE 256 (bytesToNat bs)).length) 0 ++ digitsBE 256 (bytesToNat bs)).map
      UInt8.ofNat = bs := by
  have hp := natsToBytes_pad_be256 bs
  by_cases h0 : bytesToNat bs = 0
  · rw [h0, be256, beDigits_zero, List.length_nil, Nat.sub_zero, List.append_nil] at hp
    have hlen : bs.length = bs.length - 1 + 1 := by have := List.length_pos_iff.mpr hne; omega
    rw [h0, digitsBE_zero 254, List.length_singleton, ← List.replicate_succ', ← hlen]
    exact hp
  · rw [digitsBE_eq 254 _ h0]
    exact hp

theorem intOctets_eq (z : Int) : intOctets z = intToBytes z := by
  obtain ⟨j, hl, -, -, hv⟩ := intToBytes_spec z
  unfold intOctets
  simp only [intWidth_length, hl]
  rw [two_pow_full (j + 1), Int.pow_succ, Int.mul_comm (256 ^ j) 256, ← hv, Int.toNat_natCast, ← hl]
  exact pad_digitsBE (intToBytes_ne_nil z)

theorem foldl_bits : ∀ (l : List Bool) (acc : Nat),
    l.foldl (fun a b => 2 * a + (if b then 1 else 0)) acc = acc * 2 ^ l.length + bitsToNat l
  | [], acc => by simp [bitsToNat]
  | b :: rest, acc => by
    simp only [List.foldl_cons, List.length_cons, bitsToNat]
    rw [foldl_bits rest, Nat.pow_succ, Nat.add_mul, Nat.mul_comm (2 ^ rest.length) 2, ← Nat.mul_assoc,
      Nat.mul_comm acc 2]
    cases b <;> simp <;> omega

theorem pack_eq_packBits : ∀ (g f : Nat) (l : List Bool), l.length ≤ g → l.length ≤ f →
    bitOctets.pack f (l ++ List.replicate (padLen l.length) false) = packBits g l
  | g, f, [], _, _ => by rw [packBits_nil]; cases f <;> rfl
  | 0, _, _ :: _, hg, _ => absurd hg (Nat.not_succ_le_zero _)
  | _ + 1, 0, _ :: _, _, hf => absurd hf (Nat.not_succ_le_zero _)
  | g + 1, f + 1, b :: bs, hg, hf => by
    obtain ⟨h1, h2⟩ := take8_pad (b :: bs) (List.cons_ne_nil _ _)
    rw [bitOctets.pack, if_neg (by simp), packBits, h1, h2, foldl_bits, Nat.zero_mul, Nat.zero_add,
      pack_eq_packBits g f _ (by rw [List.length_drop]; omega) (by rw [List.length_drop]; omega)]
    · rfl
    · exact List.cons_ne_nil _ _

theorem bitOctets_eq (bs : List Bool) : bitOctets bs = bitsToContent bs := by
  unfold bitOctets bitsToContent
  rw [show (8 - bs.length % 8) % 8 = padLen bs.length from rfl]
  dsimp only
  rw [pack_eq_packBits bs.length _ bs (Nat.le_refl _) (by rw [List.length_append]; omega)]

theorem subId_eq (n : Nat) : subId n = encodeArc n := by
  unfold subId encodeArc
  by_cases h0 : n = 0
  · subst h0
    rw [digitsBE_zero 126]
    rfl
  · rw [digitsBE_eq 126 n h0]
    dsimp only
    rw [cont_digits (beDigits_ne_nil 126 n h0)]
    by_cases hs : n < 126 + 2
    · simp only [hs, if_true]
      rw [beDigits_pos 126 n h0, Nat.div_eq_of_lt hs, beDigits_zero, Nat.mod_eq_of_lt hs]
      rfl
    · simp only [hs, if_false]

theorem oidOctets_eq (arcs : List Nat) : oidOctets arcs = oidToContent arcs := by
  have hf : ∀ l : List Nat, l.flatMap subId = l.flatMap encodeArc := fun l =>
    congrArg (l.flatMap ·) (funext subId_eq)
  match arcs with
  | [] => rfl
  | [_] => rfl
  | x :: y :: rest => rw [oidToContent_cons, oidOctets, hf]

theorem odd_eq_normOdd (f n : Nat) (e : Int) (hn : n ≠ 0) : realOctets.odd f n e = normOdd f n e := by
  induction f, n, e using normOdd.induct with
  | case1 => rfl
  | case2 f n e h ih =>
    rw [realOctets.odd, normOdd, if_pos h, if_pos h.2]
    exact ih (half_ne_zero h.1 h.2)
  | case3 f n e h => rw [realOctets.odd, normOdd, if_neg h, if_neg fun hev => h ⟨hn, hev⟩]

theorem realOctets_eq (m e : Int) : realOctets (.fin m 2 e) = realBinToContent m e := by
  unfold realOctets realBinToContent
  by_cases hm : m = 0
  · simp [hm]
  · have hna : m.natAbs ≠ 0 := by omega
    simp only [hm, if_false, ne_eq, not_true_eq_false]
    rw [odd_eq_normOdd _ _ _ hna]
    have hmo := normOdd_ne_zero m.natAbs m.natAbs e hna
    generalize normOdd m.natAbs m.natAbs e = pr at hmo
    obtain ⟨mo, eo⟩ := pr
    simp only at hmo
    simp only [intOctets_eq]
    rw [digitsBE_eq 254 mo hmo]
    obtain ⟨k, hk, hkE, hch⟩ := expLenCode (128 + (if m < 0 then 64 else 0)) (intToBytes eo)
    simp only [hch]
    -- the count octet is there from four exponent octets on, so the two bounds refuse the same exponents
    refine ite_congr (propext ?_) (fun _ => rfl) (fun _ => rfl)
    rw [List.length_append]
    by_cases h3 : k = 3
    · rw [if_pos h3, List.length_singleton]; omega
    · rw [if_neg h3, List.length_nil]; omega

/-- REAL contents of every value: the special values, zero, base 2; any other base is refused by both -/
theorem realOctets_eq_realContent : ∀ r : RealVal, realOctets r = realContent r
  | .pinf => rfl
  | .minf => rfl
  | .fin m b e => by
    by_cases hm : m = 0
    · subst hm; rfl
    · by_cases hb : b = 2
      · subst hb
        rw [realOctets_eq, realContent, if_neg hm, if_pos rfl]
      · unfold realOctets
        dsimp only
        rw [realContent, if_neg hm, if_neg hm, if_neg hb, if_pos hb]

end Asn1
