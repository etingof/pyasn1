/-
  Proofs.Sound — whatever the guided decoder model accepts is a complete value of the guiding type
  (C10, C08 "never a placeholder"), for every input tree, by induction on the type.
-/
import Asn1.Decoder
import Asn1.Typing
import Proofs.DecInduct
import Proofs.Typing

namespace Asn1

theorem decodeArcs_none_ok : ∀ (bs : Bytes) (o : Option Nat) (l : List Nat),
    decodeArcs o bs = .ok l → True := fun _ _ _ _ => trivial

theorem oidFromContent_len (bs : Bytes) (arcs : List Nat) (h : oidFromContent bs = .ok arcs) :
    arcs.length ≥ 2 := by
  unfold oidFromContent at h
  cases bs with
  | nil => simp at h
  | cons b rest =>
    simp only at h
    cases hd : decodeArcs none (b :: rest) with
    | error e => rw [hd] at h; simp at h
    | ok l =>
      rw [hd] at h
      cases l with
      | nil => simp at h
      | cons x xs =>
        simp only at h
        by_cases h1 : x ≤ 39
        · simp [h1] at h; subst h; simp
        · by_cases h2 : x ≤ 79
          · simp [h1, h2] at h; subst h; simp
          · simp [h1, h2] at h; subst h; simp

theorem realFromContent_ok : ∀ (bs : Bytes) (r : RealVal), realFromContent bs = .ok r →
    realOk r = true
  | [] => fun r h => by cases h; rfl
  | [b] => fun r h => by
    rw [realFromContent, Res.err_ite_eq_ok, Res.ite_eq_ok] at h
    cases h.2.2; split <;> rfl
  | b :: c0 :: rest0 => fun r h => by
    rw [realFromContent] at h
    by_cases hb : b.toNat ≥ 128
    · -- binary form: whatever the exponent and mantissa octets are, the base of the result is 2
      rw [if_pos hb] at h
      dsimp only at h
      generalize (if b.toNat % 4 + 1 = 4 then (c0.toNat, rest0)
        else (b.toNat % 4 + 1, c0 :: rest0)) = p at h
      rw [Res.err_ite_eq_ok, Res.err_ite_eq_ok] at h
      cases h.2.2; rfl
    · rw [if_neg hb, Res.ite_eq_ok] at h
      cases h.2; split <;> rfl

theorem decPrim_sound (cfg : DecCfg) (p : PrimTy) (tlv : TLV) (v : Val)
    (h : decPrim cfg p tlv = .ok v) : HasType (.prim p) v = true := by
  cases tlv with
  | cons hd tg i cs =>
    rcases decPrim_cons_ok.mp h with ⟨rfl, _, _, _, _, _, _, rfl⟩ | ⟨_, _, rfl, _, _, rfl⟩ <;> rfl
  | prim hd tg c =>
    cases p with
    | boolean =>
      cases hs : cfg.boolStrict with
      | true => rcases (decPrim_bool_strict hs).mp h with ⟨_, rfl⟩ | ⟨_, rfl⟩ <;> rfl
      | false => rw [decPrim_bool_lax hs] at h; cases h; rfl
    | integer | enumerated | str k => cases h; rfl
    | null => rw [decPrim, Res.ite_eq_ok] at h; cases h.2; rfl
    | bitString => obtain ⟨_, _, rfl⟩ := Res.map_eq_ok.mp h; rfl
    | oid =>
      obtain ⟨arcs, ha, rfl⟩ := Res.map_eq_ok.mp h
      exact decide_eq_true (oidFromContent_len _ _ ha)
    | real =>
      obtain ⟨r, hr, rfl⟩ := Res.map_eq_ok.mp h
      exact realFromContent_ok _ _ hr

def fieldTy : Fields → Nat → Option Ty
  | .nil, _ => none
  | .cons _ t _, 0 => some t
  | .cons _ _ rest, i + 1 => fieldTy rest i

/-- component vector under construction by the SET decoder: every entry is a value of the member's
    type, or (for members without DEFAULT) still `absent` -/
def PartialFields : Fields → List Val → Prop
  | .nil, [] => True
  | .cons k t rest, v :: vs =>
    ((v = .absent ∧ ∀ d, k ≠ .dflt d) ∨ HasType t v = true) ∧ PartialFields rest vs
  | _, _ => False

theorem partial_defaults : ∀ (fs : Fields), Fields.WF fs = true → PartialFields fs (defaultsOf fs)
  | .nil, _ => trivial
  | .cons k t rest, h => by
      obtain ⟨_, hr, hd⟩ := Fields.WF_cons h
      cases k
      · exact ⟨.inl ⟨rfl, nofun⟩, partial_defaults rest hr⟩
      · exact ⟨.inl ⟨rfl, nofun⟩, partial_defaults rest hr⟩
      · exact ⟨.inr (hd _ rfl), partial_defaults rest hr⟩

theorem partial_allPresent : ∀ (fs : Fields) (vs : List Val),
    PartialFields fs vs → allPresent fs vs = true → HasFields fs vs = true
  | .nil, [], _, _ => rfl
  | .nil, _ :: _, h, _ => h.elim
  | .cons _ _ _, [], h, _ => h.elim
  | .cons k t rest, v :: vs, ⟨hv, hr⟩, ha => by
      -- an entry still `absent` passed `allPresent`, so its member is not mandatory: it is OPTIONAL
      have hv' : (k = .opt ∧ v = .absent) ∨ HasType t v = true := by
        rcases hv with ⟨rfl, hk⟩ | hv
        · cases k
          · cases ha
          · exact .inl ⟨rfl, rfl⟩
          · exact absurd rfl (hk _)
        · exact .inr hv
      refine hasFields_cons_iff.mpr ⟨hv', partial_allPresent rest vs hr ?_⟩
      rw [allPresent] at ha
      · exact ha
      · rintro rfl rfl
        rcases hv' with ⟨hk, _⟩ | hv
        · cases hk
        · rw [HasType_ne_absent] at hv; cases hv

theorem setAt_partial : ∀ (fs : Fields) (acc : List Val) (i : Nat) (t : Ty) (v : Val),
    PartialFields fs acc → fieldTy fs i = some t → HasType t v = true →
    PartialFields fs (setAt acc i v)
  | .nil, _, _ => fun _ _ _ hf _ => nomatch hf
  | .cons _ _ _, [], _ => fun _ _ hp _ _ => hp.elim
  | .cons k t0 rest, a :: acc, 0 => fun t v hp hf hv => by
      cases hf; exact ⟨.inr hv, hp.2⟩
  | .cons k t0 rest, a :: acc, i + 1 => fun t v hp hf hv =>
      ⟨hp.1, setAt_partial rest acc i t v hp.2 hf hv⟩

theorem decSet_sound (cfg : DecCfg) (fs : Fields)
    (hm : ∀ i tlv k w, decMember cfg fs i tlv = .ok (k, w) →
      ∃ j t, k = i + j ∧ fieldTy fs j = some t ∧ HasType t w = true) :
    ∀ (cs : List TLV) (acc vs : List Val), PartialFields fs acc →
      decSet cfg fs cs acc = .ok vs → PartialFields fs vs
  | [] => fun acc vs hp h => by rw [decSet] at h; cases h; exact hp
  | c :: cs => fun acc vs hp h => by
      rw [decSet_cons, Res.bind_eq_ok] at h
      obtain ⟨⟨k, w⟩, hd, h⟩ := h
      obtain ⟨j, t, hk, hf, hw⟩ := hm 0 c k w hd
      rw [Nat.zero_add] at hk; subst hk
      exact decSet_sound cfg fs hm cs _ vs (setAt_partial fs acc k t w hp hf hw) h

theorem decElems_sound (cfg : DecCfg) (t : Ty)
    (ht : ∀ tlv v, decTy cfg t tlv = .ok v → HasType t v = true) :
    ∀ (cs : List TLV) (vs : List Val), decElems cfg t cs = .ok vs →
      vs.all (fun v => HasType t v) = true
  | [] => fun vs h => by rw [decElems] at h; cases h; rfl
  | c :: cs => fun vs h => by
      obtain ⟨v, hv, ws, hws, rfl⟩ := decElems_cons_ok.mp h
      rw [List.all_cons, ht c v hv, decElems_sound cfg t ht cs ws hws]; rfl

theorem hasAlt_of_fieldTy : ∀ (fs : Fields) (j : Nat) {t : Ty} {w : Val},
    fieldTy fs j = some t → HasType t w = true → HasAlt fs j w = true
  | .nil, _ => nofun
  | .cons _ _ _, 0 => fun h hw => by cases h; exact hw
  | .cons _ _ rest, j + 1 => fun h hw => hasAlt_of_fieldTy rest j h hw

/-- CHOICE dispatch is SET-member lookup (`decAlt_eq_member`): the alternative chosen is the member
    found -/
theorem alt_of_member {cfg : DecCfg} {fs : Fields}
    (hm : ∀ i x k w, decMember cfg fs i x = .ok (k, w) →
      ∃ j t, k = i + j ∧ fieldTy fs j = some t ∧ HasType t w = true)
    (i : Nat) (x : TLV) (v : Val) (h : decAlt cfg fs i x = .ok v) :
    ∃ j w, v = .choice (i + j) w ∧ HasAlt fs j w = true := by
  rw [decAlt_eq_member] at h
  obtain ⟨⟨k, w⟩, hd, rfl⟩ := Res.map_eq_ok.mp h
  obtain ⟨j, t, rfl, hf, ht⟩ := hm i x k w hd
  exact ⟨j, w, rfl, hasAlt_of_fieldTy fs j hf ht⟩

/-- `decTy` only adds a comparison of the identifier -/
theorem sound_of_body (cfg : DecCfg) {t : Ty} {o : TagClass × Nat} (ho : t.outer = some o)
    (hB : ∀ x v, decBody cfg t x = .ok v → HasType t v = true) :
    (∀ x v, decBody cfg t x = .ok v → HasType t v = true) ∧
    (∀ x v, decTy cfg t x = .ok v → HasType t v = true) :=
  ⟨hB, fun x v h => hB x v ((decTy_eq_ok ho).mp h).2⟩

mutual
theorem sound_ty_body (cfg : DecCfg) : ∀ t : Ty, t.WF = true →
    (∀ x v, decBody cfg t x = .ok v → HasType t v = true) ∧
    (∀ x v, decTy cfg t x = .ok v → HasType t v = true)
  | .prim p, _ => sound_of_body cfg rfl fun x v h => by
      rw [decBody] at h; exact decPrim_sound cfg p x v h
  | .seq fs, hw => sound_of_body cfg rfl fun x v h => by
      simp only [Ty.WF, Bool.and_eq_true] at hw
      cases x with
      | prim => simp [decBody] at h
      | cons hd tg i cs =>
        simp only [decBody, Res.map_eq_ok] at h
        obtain ⟨vs, hvs, rfl⟩ := h
        exact (sound_fs cfg fs hw.1).1 cs vs hvs
  | .set fs, hw => sound_of_body cfg rfl fun x v h => by
      simp only [Ty.WF, Bool.and_eq_true] at hw
      cases x with
      | prim => simp [decBody] at h
      | cons hd tg i cs =>
        rw [decBody_set, Res.bind_eq_ok] at h
        obtain ⟨vs, hvs, h⟩ := h
        rw [Res.ite_eq_ok] at h
        cases h.2
        have hp := decSet_sound cfg fs (sound_fs cfg fs hw.1).2 cs _ vs (partial_defaults fs hw.1) hvs
        exact partial_allPresent fs vs hp h.1
  | .seqOf t, hw | .setOf t, hw => sound_of_body cfg rfl fun x v h => by
      rw [Ty.WF] at hw
      cases x with
      | prim => simp [decBody] at h
      | cons hd tg i cs =>
        simp only [decBody, Res.map_eq_ok] at h
        obtain ⟨vs, hvs, rfl⟩ := h
        exact decElems_sound cfg t (sound_ty_body cfg t hw).2 cs vs hvs
  | .choice fs, hw => by
      simp only [Ty.WF, Bool.and_eq_true] at hw
      have key x v (h : decAlt cfg fs 0 x = .ok v) : HasType (.choice fs) v = true := by
        obtain ⟨j, w, rfl, hj⟩ := alt_of_member (sound_fs cfg fs hw.1.1).2 0 x v h
        exact (Nat.zero_add j).symm ▸ hj
      refine ⟨fun x v h => ?_, fun x v h => by rw [decTy] at h; exact key x v h⟩
      rw [decBody_choice, onlyChild_ok] at h
      obtain ⟨_, _, _, c, _, h⟩ := h
      exact key c v h
  | .any, _ =>
    ⟨fun x v h => by
      cases x with
      | prim => rw [decBody] at h; cases h; rfl
      | cons => rw [decBody, Res.ite_eq_ok] at h; cases h.2; rfl,
     fun x v h => by rw [decTy, Res.ite_eq_ok] at h; cases h.2; rfl⟩
  | .tagged true cls num t, hw => sound_of_body cfg rfl fun x v h => by
      simp only [Ty.WF, Bool.and_eq_true] at hw
      rw [decBody_explicit, onlyChild_ok] at h
      obtain ⟨_, _, _, c, _, h⟩ := h
      exact (sound_ty_body cfg t hw.2).2 c v h
  | .tagged false cls num t, hw => sound_of_body cfg rfl fun x v h => by
      rw [Ty.WF] at hw
      rw [decBody] at h; exact (sound_ty_body cfg t hw).1 x v h
theorem sound_fs (cfg : DecCfg) : ∀ fs : Fields, Fields.WF fs = true →
    (∀ cs vs, decFields cfg fs cs = .ok vs → HasFields fs vs = true) ∧
    (∀ i x k w, decMember cfg fs i x = .ok (k, w) →
      ∃ j t, k = i + j ∧ fieldTy fs j = some t ∧ HasType t w = true)
  | .nil, _ =>
    ⟨fun cs vs h => by cases cs <;> rw [decFields] at h <;> cases h; rfl,
     fun i x k w h => by simp [decMember] at h⟩
  | .cons kd t rest, hw =>
    have ⟨hwt, hwr, hwd⟩ := Fields.WF_cons hw
    ⟨fun cs ws h => by
      rcases decFields_cons_ok.mp h with
        ⟨c, cs', v, vs, rfl, _, hv, hvs, rfl⟩ | ⟨d, vs, hd, _, hvs, rfl⟩
      · exact hasFields_cons ((sound_ty_body cfg t hwt).2 c v hv) ((sound_fs cfg rest hwr).1 cs' vs hvs)
      · have hvs := (sound_fs cfg rest hwr).1 cs vs hvs
        cases kd <;> cases hd
        · exact hvs
        · exact hasFields_cons (hwd d rfl) hvs,
     fun i x k w h => by
      rw [decMember] at h
      split at h
      · obtain ⟨w', hw', he⟩ := Res.map_eq_ok.mp h
        cases he
        exact ⟨0, t, rfl, rfl, (sound_ty_body cfg t hwt).2 x w hw'⟩
      · obtain ⟨j, t', rfl, hf, ht⟩ := (sound_fs cfg rest hwr).2 (i + 1) x k w h
        exact ⟨j + 1, t', by rw [Nat.add_right_comm, Nat.add_assoc], hf, ht⟩⟩
end

theorem sound_ty (cfg : DecCfg) : ∀ (t : Ty) (tlv : TLV) (v : Val),
    t.WF = true → decTy cfg t tlv = .ok v → HasType t v = true :=
  fun t tlv v hw => (sound_ty_body cfg t hw).2 tlv v
theorem sound_body (cfg : DecCfg) : ∀ (t : Ty) (tlv : TLV) (v : Val),
    t.WF = true → decBody cfg t tlv = .ok v → HasType t v = true :=
  fun t tlv v hw => (sound_ty_body cfg t hw).1 tlv v
theorem sound_alt (cfg : DecCfg) : ∀ (fs : Fields) (i : Nat) (tlv : TLV) (v : Val),
    Fields.WF fs = true → decAlt cfg fs i tlv = .ok v →
    ∃ j w, v = .choice (i + j) w ∧ HasAlt fs j w = true :=
  fun fs i tlv v hw => alt_of_member (sound_fs cfg fs hw).2 i tlv v
theorem sound_fields (cfg : DecCfg) : ∀ (fs : Fields) (cs : List TLV) (vs : List Val),
    Fields.WF fs = true → decFields cfg fs cs = .ok vs → HasFields fs vs = true :=
  fun fs cs vs hw => (sound_fs cfg fs hw).1 cs vs
theorem sound_member (cfg : DecCfg) : ∀ (fs : Fields) (i : Nat) (tlv : TLV) (k : Nat) (w : Val),
    Fields.WF fs = true → decMember cfg fs i tlv = .ok (k, w) →
    ∃ j t, k = i + j ∧ fieldTy fs j = some t ∧ HasType t w = true :=
  fun fs i tlv k w hw => (sound_fs cfg fs hw).2 i tlv k w

end Asn1
