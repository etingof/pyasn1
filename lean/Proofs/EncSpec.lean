/-
  Proofs.EncSpec — what the encoders write is an encoding in the sense of the rules (`IsBer`):
  BER in every mode, CER and DER under their canonical profiles.
-/
import Asn1.BerSpec
import Proofs.RoundTrip
import Proofs.ContainerSort

namespace Asn1

/-- `IsBer`/`IsBody` by tag list (outermost first), as `decG` for the decoder -/
def BerG (pf : Profile) (base : Ty) (v : Val) : Bool → List Tag → TLV → Prop
  | chk, [], x => if chk then IsBer pf base v x else IsBody pf base v x
  | chk, [b], x => (chk = true → sameTag x.tag b = true) ∧ IsBody pf base v x
  | chk, o :: _ :: _, .prim _ _ _ => False
  | chk, o :: o' :: rest, .cons _ tg _ cs =>
    match cs with
    | [c] => (chk = true → sameTag tg o = true) ∧ BerG pf base v true (o' :: rest) c
    | _ => False

/-- the head of the tag list only matters through the comparison -/
theorem berG_head (pf : Profile) (base : Ty) (v : Val) {chk : Bool} (a a' : Tag) (rest : List Tag) (x : TLV)
    (h : BerG pf base v chk (a :: rest) x) :
    (chk = true → sameTag x.tag a = true) ∧ BerG pf base v false (a' :: rest) x := by
  cases rest with
  | nil => exact ⟨h.1, nofun, h.2⟩
  | cons o' rest' =>
    cases x with
    | prim hd tg c => exact h.elim
    | cons hd tg i cs =>
      match cs, h with
      | [], h => exact h.elim
      | [c], h => exact ⟨h.1, nofun, h.2⟩
      | _ :: _ :: _, h => exact h.elim

theorem sameTag_iff (a b : Tag) : sameTag a b = true ↔ a.cls = b.cls ∧ a.num = b.num := by
  simp [sameTag]

theorem untagged_choice (t : Ty) (ha : isAnyBase t = false) (ht : t.tags = []) : ∃ fs, t = .choice fs :=
  (tags_eq_nil ht).resolve_right fun h => by rw [h] at ha; cases ha

theorem isBer_of_body {pf : Profile} {t : Ty} {v : Val} {x : TLV} {a : Tag} {rest : List Tag}
    (hr : t.tags.reverse = a :: rest) (hs : sameTag x.tag a = true) (hb : IsBody pf t v x) : IsBer pf t v x := by
  have hs := (sameTag_iff _ _).mp hs
  cases t with
  | choice _ => nomatch hr
  | any => nomatch hr
  | prim _ =>
    obtain ⟨rfl, _⟩ := List.cons.inj hr
    exact .prim hs.1 hs.2 hb
  | seq _ =>
    obtain ⟨rfl, _⟩ := List.cons.inj hr
    exact .seq hs.1 hs.2 hb
  | seqOf _ =>
    obtain ⟨rfl, _⟩ := List.cons.inj hr
    exact .seqOf hs.1 hs.2 hb
  | set _ =>
    obtain ⟨rfl, _⟩ := List.cons.inj hr
    exact .set hs.1 hs.2 hb
  | setOf _ =>
    obtain ⟨rfl, _⟩ := List.cons.inj hr
    exact .setOf hs.1 hs.2 hb
  | tagged e cls num t' =>
    cases e with
    | true =>
      obtain ⟨rfl, _⟩ : _ = a ∧ _ := by simpa [Ty.tags] using hr
      cases hb with
      | explicit hc => exact .explicit hs.1 hs.2 hc
    | false =>
      simp only [Ty.tags] at hr
      cases hb with
      | implicit hb' =>
        cases hr' : t'.tags.reverse with
        | nil =>
          rw [show t'.tags = [] by simpa using congrArg List.reverse hr', tagImplicitly_reverse_nil] at hr
          obtain ⟨rfl, _⟩ := List.cons.inj hr
          exact .implicit hs.1 hs.2 hb'
        | cons o r =>
          rw [tagImplicitly_reverse_cons _ o r cls false num hr'] at hr
          obtain ⟨rfl, _⟩ := List.cons.inj hr
          exact .implicit hs.1 hs.2 hb'

theorem isBody_of_G (pf : Profile) : ∀ (t : Ty) (v : Val) (x : TLV), isAnyBase t = false →
    BerG pf t.base v false t.tags.reverse x → IsBody pf t v x
  | .prim p => fun v x _ h => h.2
  | .seq fs => fun v x _ h => h.2
  | .seqOf t => fun v x _ h => h.2
  | .set fs => fun v x _ h => h.2
  | .setOf t => fun v x _ h => h.2
  | .choice fs => fun v x _ h => h
  | .any => fun _ _ ha _ => nomatch ha
  | .tagged true cls num t => fun v x ha h => by
      have ha' : isAnyBase t = false := ha
      simp only [Ty.tags, Ty.base, List.reverse_append, List.reverse_cons, List.reverse_nil,
        List.nil_append, List.singleton_append] at h
      cases hr : t.tags.reverse with
      | nil =>
        have htags : t.tags = [] := by simpa using congrArg List.reverse hr
        obtain ⟨fs, rfl⟩ := untagged_choice t ha' htags
        rw [hr] at h
        simp only [BerG, Ty.base] at h
        cases h.2 with
        | @choice _ i w hh tg ind c hal => exact .explicit (.choice hal)
      | cons o rest =>
        rw [hr] at h
        cases x with
        | prim hd tg c => exact h.elim
        | cons hd tg i cs =>
          match cs, h with
          | [], h => exact h.elim
          | _ :: _ :: _, h => exact h.elim
          | [c], h =>
            obtain ⟨hs, hb⟩ := berG_head pf t.base v o o rest c h.2
            exact .explicit (isBer_of_body hr (hs rfl) (isBody_of_G pf t v c ha' (hr ▸ hb)))
  | .tagged false cls num t => fun v x ha h => by
      have ha' : isAnyBase t = false := ha
      simp only [Ty.tags, Ty.base] at h
      cases hr : t.tags.reverse with
      | nil =>
        have htags : t.tags = [] := by simpa using congrArg List.reverse hr
        rw [htags, tagImplicitly_reverse_nil] at h
        simp only [BerG] at h
        exact .implicit (isBody_of_G pf t v x ha' (by rw [hr]; simpa [BerG] using h.2))
      | cons o rest =>
        rw [tagImplicitly_reverse_cons _ o rest cls false num hr] at h
        exact .implicit (isBody_of_G pf t v x ha' (by rw [hr]; exact (berG_head pf t.base v _ o rest x h).2))

theorem isBer_of_G (pf : Profile) (t : Ty) (v : Val) (x : TLV) (ha : isAnyBase t = false)
    (h : BerG pf t.base v true t.tags.reverse x) : IsBer pf t v x := by
  cases hr : t.tags.reverse with
  | nil =>
    obtain ⟨fs, rfl⟩ := untagged_choice t ha (by simpa using congrArg List.reverse hr)
    simpa [Ty.tags, Ty.base, BerG] using h
  | cons a rest =>
    rw [hr] at h
    obtain ⟨hs, hb⟩ := berG_head pf t.base v a a rest x h
    exact isBer_of_body hr (hs rfl) (isBody_of_G pf t v x ha (hr ▸ hb))

theorem wrapRest_berG (pf : Profile) (base : Ty) (v : Val) {dm : Bool} {ts : List Tag} {y x : TLV}
    (h : wrapRest dm ts y = .ok x) (i0 : Tag) (inner : List Tag) (hb : BerG pf base v true (i0 :: inner) y) :
    BerG pf base v true (ts.reverse ++ i0 :: inner) x :=
  (wrapRest_inv (P := fun l z => l ≠ [] ∧ BerG pf base v true l z)
    (fun t l hd z _ hp => ⟨List.cons_ne_nil _ _, by
      obtain ⟨a, r, rfl⟩ := List.exists_cons_of_ne_nil hp.1
      exact ⟨fun _ => sameTag_wire t true, hp.2⟩⟩) ts y x _ h ⟨List.cons_ne_nil _ _, hb⟩).2

theorem wrapRest_lenForm {dm : Bool} {ts : List Tag} {y x : TLV} (h : wrapRest dm ts y = .ok x)
    (hy : y.lenForm dm = true) : x.lenForm dm = true :=
  wrapRest_inv (P := fun _ z => z.lenForm dm = true)
    (fun _ _ _ _ _ hp => by simp [TLV.lenForm, lenFormL, hp]) ts y x [] h hy

theorem WFs_iff : ∀ (cs : List TLV), WFs cs ↔ ∀ c ∈ cs, c.WF
  | [] => by simp [WFs]
  | c :: cs => by simp [WFs, WFs_iff cs]

theorem NoEooL_iff : ∀ (cs : List TLV), NoEooL cs ↔ ∀ c ∈ cs, NotEoo c.ser
  | [] => by simp [NoEooL]
  | c :: cs => by simp [NoEooL, NoEooL_iff cs]

theorem allDefL_iff : ∀ (cs : List TLV), allDefL cs = true ↔ ∀ c ∈ cs, c.allDef = true
  | [] => by simp [allDefL]
  | c :: cs => by simp [allDefL, allDefL_iff cs]
theorem lenFormL_iff (dm : Bool) : ∀ (cs : List TLV), lenFormL dm cs = true ↔ ∀ c ∈ cs, c.lenForm dm = true
  | [] => by simp [lenFormL]
  | c :: cs => by simp [lenFormL, lenFormL_iff dm cs]

theorem serList_ne_nil (cs : List TLV) (hw : WFs cs) (hne : cs ≠ []) : (serList cs).isEmpty = false := by
  cases cs with
  | nil => exact absurd rfl hne
  | cons c cs =>
    have := TLV.ser_length_ge c hw.1
    rw [serList_cons]
    cases hc : c.ser with
    | nil => rw [hc] at this; simp at this
    | cons _ _ => simp

mutual
/-- the constructed contents of the value come out empty (given that empty OPTIONAL members are
    omitted when `om`) -/
def emptyC (om : Bool) : Ty → Val → Bool
  | .tagged _ _ _ t, v => emptyC om t v
  | .seqOf _, .seqOf vs => vs.isEmpty
  | .setOf _, .seqOf vs => vs.isEmpty
  | .seq fs, .seq vs => emptyF om fs vs
  | .set fs, .seq vs => emptyF om fs vs
  | .choice fs, .choice i v => emptyAlt om fs i v
  | _, _ => false
def emptyF (om : Bool) : Fields → List Val → Bool
  | .cons k t r, v :: vs => (skipField k v || (om && k.isOpt && emptyC om t v)) && emptyF om r vs
  | _, _ => true
def emptyAlt (om : Bool) : Fields → Nat → Val → Bool
  | .nil, _, _ => false
  | .cons _ t _, 0, v => emptyC om t v
  | .cons _ _ r, i + 1, v => emptyAlt om r i v
end

mutual
/-- finding E3 does not apply anywhere in the value: no OPTIONAL member is present with empty
    constructed contents (CER/DER leave such a member out, which is not an X.690 rule) -/
def noE3 (om : Bool) : Ty → Val → Bool
  | .tagged _ _ _ t, v => noE3 om t v
  | .seqOf t, .seqOf vs => vs.all (fun v => noE3 om t v)
  | .setOf t, .seqOf vs => vs.all (fun v => noE3 om t v)
  | .seq fs, .seq vs => noE3F om fs vs
  | .set fs, .seq vs => noE3F om fs vs
  | .choice fs, .choice i v => noE3Alt om fs i v
  | _, _ => true
def noE3F (om : Bool) : Fields → List Val → Bool
  | .cons k t r, v :: vs =>
    (skipField k v || (!(om && k.isOpt && emptyC om t v) && noE3 om t v)) && noE3F om r vs
  | _, _ => true
def noE3Alt (om : Bool) : Fields → Nat → Val → Bool
  | .nil, _, _ => true
  | .cons _ t _, 0, v => noE3 om t v
  | .cons _ _ r, i + 1, v => noE3Alt om r i v
end

mutual
/-- when empty OPTIONAL members are not omitted (BER), finding E3 applies to nothing -/
theorem noE3_false : ∀ (t : Ty) (v : Val), noE3 false t v = true
  | .tagged _ _ _ t, v => noE3_false t v
  | .prim _, _ => rfl
  | .any, _ => rfl
  | .seq fs, v => by
      cases v with
      | seq vs => exact noE3F_false fs vs
      | _ => rfl
  | .set fs, v => by
      cases v with
      | seq vs => exact noE3F_false fs vs
      | _ => rfl
  | .seqOf t, v => by
      cases v with
      | seqOf vs => exact List.all_eq_true.mpr fun x _ => noE3_false t x
      | _ => rfl
  | .setOf t, v => by
      cases v with
      | seqOf vs => exact List.all_eq_true.mpr fun x _ => noE3_false t x
      | _ => rfl
  | .choice fs, v => by
      cases v with
      | choice i w => exact noE3Alt_false fs i w
      | _ => rfl
theorem noE3F_false : ∀ (fs : Fields) (vs : List Val), noE3F false fs vs = true
  | .nil, _ => rfl
  | .cons _ _ _, [] => rfl
  | .cons k t r, v :: vs => by
      show ((skipField k v || (!(false && k.isOpt && emptyC false t v) && noE3 false t v)) && noE3F false r vs) = true
      rw [noE3_false t v, noE3F_false r vs]; simp
theorem noE3Alt_false : ∀ (fs : Fields) (i : Nat) (v : Val), noE3Alt false fs i v = true
  | .nil, _, _ => rfl
  | .cons _ t _, 0, v => noE3_false t v
  | .cons _ _ r, i + 1, v => noE3Alt_false r i v
end

theorem member_hyps {rl : Bool} {cfg : EncCfg} {dm om : Bool} {k : FKind} {t : Ty} {r : Fields} {v : Val}
    {vs : List Val} (hr : Fields.reg rl cfg dm (.cons k t r) = true) (hw : Fields.WF (.cons k t r) = true)
    (hf : HasFields (.cons k t r) (v :: vs) = true) (hn : noE3F om (.cons k t r) (v :: vs) = true) :
    (Fields.reg rl cfg dm r = true ∧ Fields.WF r = true ∧ HasFields r vs = true ∧ noE3F om r vs = true) ∧
      (skipField k v = false → t.reg rl cfg dm = true ∧ t.WF = true ∧ HasType t v = true ∧
        noE3 om t v = true ∧ (om = true → k.isOpt = true → emptyC om t v = false)) := by
  rw [Fields.reg, Bool.and_eq_true] at hr
  have hw' := Fields.WF_cons hw
  have hn : ((skipField k v || (!(om && k.isOpt && emptyC om t v) && noE3 om t v)) && noE3F om r vs) = true := hn
  simp only [Bool.and_eq_true, Bool.or_eq_true, Bool.not_eq_true'] at hn
  refine ⟨⟨hr.2, hw'.2.1, (hasFields_cons_iff.mp hf).2, hn.2⟩, fun hs => ?_⟩
  obtain ⟨hne, hnt⟩ := hn.1.resolve_left (by simp [hs])
  exact ⟨hr.1, hw'.1, (hasFields_present hf hs).1, hnt, fun ho hk => by simpa [ho, hk] using hne⟩

theorem emptyF_skip {om : Bool} {k : FKind} {t : Ty} {r : Fields} {v : Val} {vs : List Val}
    (hs : skipField k v = true) : emptyF om (.cons k t r) (v :: vs) = emptyF om r vs := by
  show ((skipField k v || (om && k.isOpt && emptyC om t v)) && emptyF om r vs) = emptyF om r vs
  rw [hs]; rfl

/-- a member the encoder leaves out is one the rules allow to be absent -/
theorem isFields_skipped {pf : Profile} {k : FKind} {t : Ty} {r : Fields} {v : Val} {vs : List Val}
    {cs : List TLV} (hf : HasFields (.cons k t r) (v :: vs) = true) (hs : skipField k v = true)
    (h : IsFields pf r vs cs) : IsFields pf (.cons k t r) (v :: vs) cs := by
  rcases (hasFields_skipped hf hs).2 with ⟨rfl, rfl⟩ | rfl
  · exact .absentOpt h
  · exact .absentDflt h

structure EncRegion (cfg : EncCfg) (pf : Profile) (mc : Nat) : Prop where
  boolT : if pf.anyTrue then UInt8.ofNat cfg.boolTrue ≠ 0 else UInt8.ofNat cfg.boolTrue = 0xFF
  chunk : mc = 0 ∨ pf.segmented = true
  setOmit : cfg.setOrder = .declared ∨ cfg.seqOmitEmpty = true

/-- one encoded item is the serialisation of a well-formed element that is an encoding of the
    value in the sense of the rules -/
def GoodS (pf : Profile) (dm : Bool) (t : Ty) (v : Val) (b : Bytes) : Prop :=
  ∃ x : TLV, b = x.ser ∧ x.WF ∧ NotEoo x.ser ∧ x.lenForm dm = true ∧ IsBer pf t v x

def ContentS (cfg : EncCfg) (pf : Profile) (dm om : Bool) (t : Ty) (v : Val) (sub : Bytes)
    (ic : Bool) : Prop :=
  (ic = false → (∃ p, t.base = .prim p) ∧ ∀ hd tg, IsBody pf t.base v (.prim hd tg sub)) ∧
  (ic = true → supportsIndef cfg t.base = true ∧
      ∃ cs, sub = serList cs ∧ WFs cs ∧ NoEooL cs ∧ lenFormL dm cs = true ∧
        (∀ hd tg indef, IsBody pf t.base v (.cons hd tg indef cs)) ∧
        (t.tags = [] → ∃ x, cs = [x] ∧ IsBer pf t v x) ∧
        (emptyC om t v = false → cs ≠ []))

section
variable {cfg : EncCfg} {pf : Profile} {dm om : Bool} {t : Ty} {v : Val}

theorem contentS_untagged {sub : Bytes} (hc : ContentS cfg pf dm om t v sub true) (ht : t.tags = []) :
    GoodS pf dm t v sub := by
  obtain ⟨_, cs, hsub, hw, hne, hdef, _, hx, _⟩ := hc.2 rfl
  obtain ⟨x, rfl, hber⟩ := hx ht
  exact ⟨x, by rw [hsub, serList_single], hw.1, hne.1, (Bool.and_eq_true_iff.mp hdef).1, hber⟩

theorem contentS_nonempty {sub : Bytes} (hc : ContentS cfg pf dm om t v sub true)
    (he : emptyC om t v = false) : sub.isEmpty = false := by
  obtain ⟨_, cs, rfl, hw, _, _, _, _, hne⟩ := hc.2 rfl
  exact serList_ne_nil cs hw (hne he)

theorem contentS_tagged {sub : Bytes} {ic : Bool} (e : Bool) (c : TagClass) (n : Nat)
    (h : ContentS cfg pf dm om t v sub ic) :
    ContentS cfg pf dm om (.tagged e c n t) v sub ic := by
  refine ⟨h.1, fun hic => ?_⟩
  obtain ⟨h1, cs, h2, h3, h4, h5, h6, _, h8⟩ := h.2 hic
  exact ⟨h1, cs, h2, h3, h4, h5, h6, fun ht => absurd ht (tagged_tags_ne e c n t), h8⟩

theorem contentS_prim {p : PrimTy} {sub : Bytes} (h : ∀ hd tg, IsBody pf (.prim p) v (.prim hd tg sub)) :
    ContentS cfg pf dm om (.prim p) v sub false :=
  ⟨fun _ => ⟨⟨p, rfl⟩, fun hd tg => by simpa [Ty.base] using h hd tg⟩, fun hic => by simp at hic⟩

theorem contentS_cons {cs : List TLV} (hsi : supportsIndef cfg t.base = true) (ht : t.tags ≠ [])
    (hc : WFs cs ∧ NoEooL cs ∧ lenFormL dm cs = true)
    (hb : ∀ hd tg indef, IsBody pf t.base v (.cons hd tg indef cs))
    (hne : emptyC om t v = false → cs ≠ []) : ContentS cfg pf dm om t v (serList cs) true :=
  ⟨nofun, fun _ => ⟨hsi, cs, rfl, hc.1, hc.2.1, hc.2.2, hb, fun h => absurd h ht, hne⟩⟩

theorem contentS_single {x : TLV} (hsi : supportsIndef cfg t.base = true) (hw : x.WF) (hne : NotEoo x.ser)
    (hl : x.lenForm dm = true) (hb : ∀ hd tg indef, IsBody pf t.base v (.cons hd tg indef [x]))
    (hx : IsBer pf t v x) : ContentS cfg pf dm om t v x.ser true :=
  ⟨nofun, fun _ => ⟨hsi, [x], (serList_single x).symm, ⟨hw, trivial⟩, ⟨hne, trivial⟩,
    Bool.and_eq_true_iff.mpr ⟨hl, rfl⟩, hb, fun _ => ⟨x, rfl, hx⟩, fun _ => List.cons_ne_nil _ _⟩⟩

end

abbrev mkO (dm : Bool) (mc : Nat) (f : Bool) : EncOpts := { defMode := dm, maxChunk := mc, ifNotEmpty := f }

theorem item_of_contentS (cfg : EncCfg) (pf : Profile) (dm om : Bool) (mc : Nat) (f : Bool)
    (t : Ty) (hreg : t.reg true cfg dm = true) (hwf : t.WF = true) (v : Val) (sub : Bytes)
    (ic : Bool) (b : Bytes) (hE : f = true → emptyC om t v = false)
    (hc : ContentS cfg pf dm om t v sub ic)
    (h : finishItem cfg { defMode := dm, maxChunk := mc, ifNotEmpty := f } t (.ok (sub, ic)) = .ok b) :
    GoodS pf dm t v b := by
  have hna := reg_not_any true cfg dm t hreg
  -- whatever the base element `y` is: wrapped in the remaining tags, it is an encoding of the value
  have key : ∀ {t0 ts ic y x}, t.tags = t0 :: ts → wrapRest dm ts y = .ok x → y.WF → NotEoo y.ser →
      y.tag = wireTag t0 ic → y.lenForm dm = true → IsBody pf t.base v y → GoodS pf dm t v x.ser := by
    intro t0 ts ic y x htags hx hyw hyn hyt hyd hbody
    obtain ⟨h1, h2⟩ := wrapRest_wf hx hyw hyn
    refine ⟨x, rfl, h1, h2, wrapRest_lenForm hx hyd, isBer_of_G pf t v x hna ?_⟩
    rw [htags, List.reverse_cons]
    exact wrapRest_berG pf t.base v hx t0 [] ⟨fun _ => hyt ▸ sameTag_wire t0 ic, hbody⟩
  cases ic with
  | false =>
    obtain ⟨⟨p, hp⟩, hbody⟩ := hc.1 rfl
    obtain ⟨t0, ts, hd, x, htags, hx, rfl, hyw, hyn⟩ := finishItem_prim (o := mkO dm mc f) hreg hwf hp h
    exact key htags hx hyw hyn rfl rfl (hbody hd _)
  | true =>
    cases htags : t.tags with
    | nil =>
      simp only [finishItem, htags, List.isEmpty_nil, if_true, Except.ok.injEq] at h
      exact h ▸ contentS_untagged hc htags
    | cons t0 ts =>
      have homit : (sub.isEmpty && f) = false := by
        cases f with
        | false => simp
        | true => rw [contentS_nonempty hc (hE rfl)]; rfl
      obtain ⟨hsi, cs, rfl, hw, hne, hdef, hbody, _⟩ := hc.2 rfl
      obtain ⟨hd, x, _, hx, rfl, hyw, hyn⟩ := finishItem_cons (o := mkO dm mc f) htags hsi hw hne homit h
      exact key htags hx hyw hyn rfl (by simp [TLV.lenForm, hdef]) (hbody hd _ _)

theorem flatten_map_ser : ∀ (cs : List TLV), (cs.map TLV.ser).flatten = serList cs
  | [] => by simp [serList]
  | c :: cs => by simp [serList_cons, flatten_map_ser cs]

theorem isElems_of_pairs (pf : Profile) (t : Ty) : ∀ (ps : List (Val × TLV)),
    (∀ p ∈ ps, IsBer pf t p.1 p.2) → IsElems pf t (ps.map (·.1)) (ps.map (·.2))
  | [], _ => .nil
  | p :: ps, h => .cons (h p (by simp)) (isElems_of_pairs pf t ps (fun q hq => h q (by simp [hq])))

theorem elems_goodS (pf : Profile) (dm : Bool) (t : Ty) (f : Val → Except Err Bytes) :
    ∀ (vs : List Val) (bs : List Bytes),
      (∀ v b, v ∈ vs → f v = .ok b → GoodS pf dm t v b) → allOk (vs.map f) = .ok bs →
      ∃ ps : List (Val × TLV), ps.map (·.1) = vs ∧ bs = ps.map (·.2.ser) ∧
        ∀ p ∈ ps, p.2.WF ∧ NotEoo p.2.ser ∧ p.2.lenForm dm = true ∧ IsBer pf t p.1 p.2
  | [] => fun bs _ h => by
      simp only [List.map_nil, allOk, Except.ok.injEq] at h
      subst h
      exact ⟨[], rfl, rfl, by intro p hp; simp at hp⟩
  | v :: vs => fun bs hg h => by
      obtain ⟨b, bs', hv, hr, rfl⟩ := allOk_cons h
      obtain ⟨x, hb, hw, hn, hd, hber⟩ := hg v b (by simp) hv
      obtain ⟨ps, h1, h2, h3⟩ := elems_goodS pf dm t f vs bs'
        (fun v' b' hm hf => hg v' b' (by simp [hm]) hf) hr
      refine ⟨(v, x) :: ps, by simp [h1], by simp [hb, h2], ?_⟩
      intro p hp
      rcases List.mem_cons.mp hp with rfl | hp
      · exact ⟨hw, hn, hd, hber⟩
      · exact h3 p hp

theorem isBitSegs_frags : ∀ (frags : List (List Bool)),
    IsBitSegs ((frags.map bitsToContent).map (fragNode .bitString)) frags.flatten
  | [] => .nil
  | _ :: frags => .cons rfl rfl (isBitSegs_frags frags)

theorem isSegs_frags (p : PrimTy) : ∀ (frags : List Bytes),
    IsSegs p.univNum (frags.map (fragNode p)) frags.flatten
  | [] => .nil
  | _ :: frags => .cons (.prim rfl rfl) (isSegs_frags p frags)

theorem lenFormL_frags (dm : Bool) (p : PrimTy) : ∀ (frags : List Bytes),
    lenFormL dm (frags.map (fragNode p)) = true
  | [] => rfl
  | _ :: frags => by simp [lenFormL, fragNode, TLV.lenForm, lenFormL_frags dm p frags]

def ChildOk (dm : Bool) (c : TLV) : Prop := c.WF ∧ NotEoo c.ser ∧ c.lenForm dm = true

theorem children_ok {dm : Bool} {cs : List TLV} (h : ∀ c ∈ cs, ChildOk dm c) :
    WFs cs ∧ NoEooL cs ∧ lenFormL dm cs = true :=
  ⟨(WFs_iff cs).mpr (fun c hc => (h c hc).1), (NoEooL_iff cs).mpr (fun c hc => (h c hc).2.1),
   (lenFormL_iff dm cs).mpr (fun c hc => (h c hc).2.2)⟩

/-- the options a member of a SEQUENCE and the members after it are encoded with -/
theorem mkO_member (cfg : EncCfg) (dm : Bool) (mc : Nat) (f : Bool) (k : FKind) :
    (if cfg.seqOmitEmpty = true then { mkO dm mc f with ifNotEmpty := k.isOpt } else mkO dm mc f)
      = mkO dm mc (if cfg.seqOmitEmpty then k.isOpt else f) := by
  cases cfg.seqOmitEmpty <;> rfl

/-- the CER/DER SET encoder: members written in the order of their sort keys -/
theorem set_sorted_content (cfg : EncCfg) (pf : Profile) (dm : Bool) (fs : Fields) (vs : List Val)
    (ps : List (TagSet × TLV)) (ms : List (TagSet × Bytes))
    (h1 : ms = ps.map (fun p => (p.1, p.2.ser))) (h2 : ∀ p ∈ ps, ChildOk dm p.2)
    (h3 : IsFields pf fs vs (ps.map (·.2)))
    (h4 : emptyC cfg.seqOmitEmpty (.set fs) (.seq vs) = false → ps ≠ []) :
    ContentS cfg pf dm cfg.seqOmitEmpty (.set fs) (.seq vs)
      (((ms.mergeSort (fun a b => tagSetLe (outerKey a.1) (outerKey b.1))).map (·.2)).flatten) true := by
  subst h1
  let le : TagSet × TLV → TagSet × TLV → Bool := fun a b => tagSetLe (outerKey a.1) (outerKey b.1)
  have hsort : (ps.map (fun p => (p.1, p.2.ser))).mergeSort (fun a b => tagSetLe (outerKey a.1) (outerKey b.1))
      = (ps.mergeSort le).map (fun p => (p.1, p.2.ser)) := by
    rw [List.map_mergeSort (r := le)]
    intro a _ b _; rfl
  have hperm : (ps.mergeSort le).Perm ps := List.mergeSort_perm ps le
  have hser : ((ps.mergeSort le).map fun p => (p.1, p.2.ser)).map (·.2) = ((ps.mergeSort le).map (·.2)).map TLV.ser := by
    rw [List.map_map, List.map_map]; rfl
  rw [hsort, hser, flatten_map_ser]
  refine contentS_cons rfl (List.cons_ne_nil _ _) (children_ok fun c hc => ?_)
    (fun hd tg indef => .set h3 (hperm.map _)) fun he hnil => ?_
  · obtain ⟨p, hp, rfl⟩ := List.mem_map.mp hc
    exact h2 p (hperm.subset hp)
  · have hl := hperm.length_eq
    rw [List.map_eq_nil_iff.mp hnil] at hl
    exact h4 he (List.eq_nil_of_length_eq_zero hl.symm)

theorem contentS_of_elems {cfg : EncCfg} {pf : Profile} {dm om : Bool} {T t : Ty} {v : Val}
    (qs : List (Val × TLV)) (hsi : supportsIndef cfg T.base = true) (ht : T.tags ≠ [])
    (h3 : ∀ p ∈ qs, p.2.WF ∧ NotEoo p.2.ser ∧ p.2.lenForm dm = true ∧ IsBer pf t p.1 p.2)
    (hb : ∀ hd tg indef, IsBody pf T.base v (.cons hd tg indef (qs.map (·.2))))
    (hne : emptyC om T v = false → qs ≠ []) :
    ContentS cfg pf dm om T v (qs.map (·.2.ser)).flatten true := by
  have hser : qs.map (·.2.ser) = (qs.map (·.2)).map TLV.ser := by rw [List.map_map]; rfl
  rw [hser, flatten_map_ser]
  refine contentS_cons hsi ht (children_ok fun c hc => ?_) hb
    fun he hnil => hne he (List.map_eq_nil_iff.mp hnil)
  obtain ⟨p, hp, rfl⟩ := List.mem_map.mp hc
  exact ⟨(h3 p hp).1, (h3 p hp).2.1, (h3 p hp).2.2.1⟩

/-- the CER/DER SET OF encoder: element encodings sorted as zero-padded octet strings -/
theorem setOf_sorted_content (cfg : EncCfg) (pf : Profile) (dm : Bool) (t : Ty) (vs : List Val)
    (ps : List (Val × TLV)) (bs : List Bytes)
    (h1 : ps.map (·.1) = vs) (h2 : bs = ps.map (·.2.ser))
    (h3 : ∀ p ∈ ps, p.2.WF ∧ NotEoo p.2.ser ∧ p.2.lenForm dm = true ∧ IsBer pf t p.1 p.2) :
    ContentS cfg pf dm cfg.seqOmitEmpty (.setOf t) (.seqOf vs)
      ((if cfg.sortSetOf then sortSetOfChunks bs else bs).flatten) true := by
  subst h2
  -- the same permutation applied to the (value, element) pairs
  have hex : ∃ qs : List (Val × TLV), qs.Perm ps ∧
      (if cfg.sortSetOf then sortSetOfChunks (ps.map (·.2.ser)) else ps.map (·.2.ser)) = qs.map (·.2.ser) := by
    cases cfg.sortSetOf with
    | false => exact ⟨ps, List.Perm.refl _, rfl⟩
    | true =>
      let m := (ps.map (·.2.ser)).foldl (fun a c => max a c.length) 0
      let le : Val × TLV → Val × TLV → Bool := fun a b => padLe m a.2.ser b.2.ser
      refine ⟨ps.mergeSort le, List.mergeSort_perm ps le, ?_⟩
      rw [if_pos rfl, sortSetOfChunks_eq, List.map_mergeSort (r := le)]
      intro a _ b _; rfl
  obtain ⟨qs, hperm, hq⟩ := hex
  rw [hq]
  refine contentS_of_elems qs rfl (List.cons_ne_nil _ _) (fun p hp => h3 p (hperm.subset hp))
    (fun hd tg indef => ?_) fun he hnil => ?_
  · refine .setOf (ws := qs.map (·.1)) (isElems_of_pairs pf t qs (fun p hp => (h3 p (hperm.subset hp)).2.2.2)) ?_
    rw [← h1]
    exact hperm.map _
  · have hvs : vs ≠ [] := List.isEmpty_eq_false_iff.mp he
    apply hvs
    rw [← h1, ← List.length_eq_zero_iff, List.length_map, ← hperm.length_eq, hnil]; rfl

theorem goodS_of_item {cfg : EncCfg} {pf : Profile} {dm : Bool} {mc : Nat} {f : Bool} {t : Ty} {v : Val}
    {b : Bytes} (hreg : t.reg true cfg dm = true) (hwf : t.WF = true)
    (hE : f = true → emptyC cfg.seqOmitEmpty t v = false)
    (ih : ∀ sub ic, encValue cfg (mkO dm mc f) t v = .ok (sub, ic) →
      ContentS cfg pf dm cfg.seqOmitEmpty t v sub ic)
    (h : finishItem cfg (mkO dm mc f) t (encValue cfg (mkO dm mc f) t v) = .ok b) : GoodS pf dm t v b := by
  obtain ⟨sub, ic, he⟩ := finish_ok h
  rw [he] at h
  exact item_of_contentS cfg pf dm cfg.seqOmitEmpty mc f t hreg hwf v sub ic b hE (ih sub ic he) h

theorem encValue_real (cfg : EncCfg) (o : EncOpts) (r : RealVal) :
    encValue cfg o (.prim .real) (.real r) =
      match realContent r with
      | some c => .ok (c, false)
      | none => .error .refused := by
  cases r with
  | pinf => rfl
  | minf => rfl
  | fin m b e =>
    simp only [encValue, realContent]
    by_cases hm : m = 0
    · simp only [hm, if_true]
    · by_cases hb : b = 2
      · simp only [hm, hb, if_true, if_false]; cases realBinToContent m e <;> rfl
      · simp only [hm, hb, if_false]

theorem encValue_real_ok {cfg : EncCfg} {o : EncOpts} {r : RealVal} {sub : Bytes} {ic : Bool}
    (h : encValue cfg o (.prim .real) (.real r) = .ok (sub, ic)) : realContent r = some sub ∧ ic = false := by
  rw [encValue_real] at h
  cases hc : realContent r with
  | none => rw [hc] at h; cases h
  | some c => rw [hc] at h; cases h; exact ⟨rfl, rfl⟩

variable (cfg : EncCfg) (pf : Profile) (dm : Bool) (mc : Nat) (hR : EncRegion cfg pf mc)
include hR

theorem prim_contentS (p : PrimTy) (v : Val) (sub : Bytes) (ic f : Bool) (ht : HasType (.prim p) v = true)
    (h : encValue cfg (mkO dm mc f) (.prim p) v = .ok (sub, ic)) :
    ContentS cfg pf dm cfg.seqOmitEmpty (.prim p) v sub ic := by
  cases p with
  | boolean =>
    obtain ⟨b, rfl⟩ := hasType_bool ht
    cases h
    cases b with
    | true => exact contentS_prim (fun hd tg => by simpa using IsBody.boolTrue hR.boolT)
    | false => exact contentS_prim (fun hd tg => by simpa using IsBody.boolFalse)
  | integer =>
    obtain ⟨z, rfl⟩ := hasType_int ht
    cases h
    exact contentS_prim (fun hd tg => .int)
  | enumerated =>
    obtain ⟨z, rfl⟩ := hasType_enum ht
    cases h
    exact contentS_prim (fun hd tg => .enum)
  | null =>
    cases hasType_null ht
    cases h
    exact contentS_prim (fun hd tg => .null)
  | oid =>
    obtain ⟨arcs, rfl⟩ := hasType_oid ht
    obtain ⟨hc, rfl⟩ := encValue_oid_ok h
    exact contentS_prim (fun hd tg => .oid hc)
  | real =>
    obtain ⟨r, rfl⟩ := hasType_real ht
    obtain ⟨hc, rfl⟩ := encValue_real_ok h
    exact contentS_prim (fun hd tg => .real hc)
  | bitString =>
    obtain ⟨bs, rfl⟩ := hasType_bits ht
    rcases encValue_bits_ok h with ⟨rfl, rfl⟩ | ⟨hmc, rfl, _, rfl, h2, h3, hne, rfl⟩
    · exact contentS_prim (fun hd tg => .bits)
    · have hmc : 0 < mc := hmc
      have hsegs := isBitSegs_frags (chunkBits (mc * 8) bs.length bs)
      rw [chunkBits_flatten (mc * 8) (by omega) bs.length bs (Nat.le_refl _)] at hsegs
      exact contentS_cons rfl (List.cons_ne_nil _ _) ⟨h2, h3, lenFormL_frags dm _ _⟩
        (fun hd tg indef => .bitsSeg (hR.chunk.resolve_left (Nat.ne_of_gt hmc)) hne hsegs) fun _ => hne
  | str k =>
    obtain ⟨bs, rfl⟩ := hasType_str ht
    rcases encValue_str_ok h with ⟨rfl, rfl⟩ | ⟨hmc, rfl, _, rfl, h2, h3, hne, rfl⟩
    · exact contentS_prim (fun hd tg => .str)
    · have hmc : 0 < mc := hmc
      have hsegs : IsSegs 4 _ _ := isSegs_frags (.str 4) (chunkBytes mc bs.length bs)
      rw [chunkBytes_flatten mc hmc bs.length bs (Nat.le_refl _)] at hsegs
      exact contentS_cons rfl (List.cons_ne_nil _ _) ⟨h2, h3, lenFormL_frags dm _ _⟩
        (fun hd tg indef => .strSeg (hR.chunk.resolve_left (Nat.ne_of_gt hmc)) hsegs) fun _ => hne

mutual
theorem rt_contentS : ∀ (t : Ty) (v : Val) (sub : Bytes) (ic : Bool) (f : Bool),
    (f = true → cfg.seqOmitEmpty = true) →
    t.reg true cfg dm = true → t.WF = true → HasType t v = true → noE3 cfg.seqOmitEmpty t v = true →
    (f = true → emptyC cfg.seqOmitEmpty t v = false) →
    encValue cfg (mkO dm mc f) t v = .ok (sub, ic) → ContentS cfg pf dm cfg.seqOmitEmpty t v sub ic
  | .tagged e c n t => fun v sub ic f hf hr hw ht hn hE h =>
      contentS_tagged e c n (rt_contentS t v sub ic f hf (reg_tagged hr) (wf_tagged hw) ht hn hE h)
  | .prim p => fun v sub ic f _ _ _ ht _ _ h => prim_contentS cfg pf dm mc hR p v sub ic f ht h
  | .any => fun _ _ _ _ _ hr _ _ _ _ _ => by simp [Ty.reg] at hr
  | .seq fs => fun v sub ic f hf hr hw ht hn hE h => by
      obtain ⟨vs, rfl, hvs⟩ := hasType_seq ht
      obtain ⟨hb, rfl⟩ := encValue_seq_ok h
      simp only [Ty.WF, Bool.and_eq_true] at hw
      obtain ⟨cs, rfl, h2, h3, h4⟩ := rt_fieldsS fs vs sub f hf hr hw.1 hvs hn hb
      exact contentS_cons rfl (List.cons_ne_nil _ _) (children_ok h2) (fun hd tg indef => .seq h3) h4
  | .set fs => fun v sub ic f hf hr hw ht hn hE h => by
      obtain ⟨vs, rfl, hvs⟩ := hasType_set ht
      simp only [Ty.WF, Bool.and_eq_true] at hw
      obtain ⟨hb, rfl⟩ := encValue_set_ok h
      by_cases hso : cfg.setOrder = .declared
      · rw [if_pos hso] at hb
        obtain ⟨cs, rfl, h2, h3, h4⟩ := rt_fieldsS fs vs sub f hf hr hw.1 hvs hn hb
        exact contentS_cons rfl (List.cons_ne_nil _ _) (children_ok h2)
          (fun hd tg indef => .set h3 (List.Perm.refl _)) h4
      · rw [if_neg hso] at hb
        obtain ⟨ms, hb, rfl⟩ := hb
        obtain ⟨ps, h1, h2, h3, h4⟩ :=
          rt_setS fs vs ms cfg.setOrder f (hR.setOmit.resolve_left hso) hr hw.1 hvs hn hb
        exact set_sorted_content cfg pf dm fs vs ps ms h1 h2 h3 h4
  | .seqOf t => fun v sub ic f hfl hr hw ht hn hE h => by
      obtain ⟨vs, rfl, hvs⟩ := hasType_seqOf ht
      obtain ⟨bs, hb, rfl, rfl⟩ := encValue_seqOf_ok h
      have hnall : ∀ v ∈ vs, noE3 cfg.seqOmitEmpty t v = true := fun v hv => List.all_eq_true.mp hn v hv
      obtain ⟨ps, h1, h2, h3⟩ := elems_goodS pf dm t _ vs bs (fun v b hm hfin =>
        goodS_of_item hr hw (by simp) (fun sub ic he =>
          rt_contentS t v sub ic false (by simp) hr hw (hvs v hm) (hnall v hm) (by simp) he) hfin) hb
      rw [h2]
      refine contentS_of_elems ps rfl (List.cons_ne_nil _ _) h3 (fun hd tg indef => ?_) fun he hps => ?_
      · rw [← h1]
        exact .seqOf (isElems_of_pairs pf t ps (fun p hp => (h3 p hp).2.2.2))
      · have : vs ≠ [] := List.isEmpty_eq_false_iff.mp he
        apply this
        rw [← h1, hps]; rfl
  | .setOf t => fun v sub ic f hfl hr hw ht hn hE h => by
      obtain ⟨vs, rfl, hvs⟩ := hasType_setOf ht
      obtain ⟨bs, hb, rfl, rfl⟩ := encValue_setOf_ok h
      have hnall : ∀ v ∈ vs, noE3 cfg.seqOmitEmpty t v = true := fun v hv => List.all_eq_true.mp hn v hv
      obtain ⟨ps, h1, h2, h3⟩ := elems_goodS pf dm t _ vs bs (fun v b hm hfin =>
        goodS_of_item hr hw (by simp) (fun sub ic he =>
          rt_contentS t v sub ic false (by simp) hr hw (hvs v hm) (hnall v hm) (by simp) he) hfin) hb
      exact setOf_sorted_content cfg pf dm t vs ps bs h1 h2 h3
  | .choice fs => fun v sub ic f hf hr hw ht hn hE h => by
      obtain ⟨i, w, rfl, hiw⟩ := hasType_choice ht
      obtain ⟨hb, rfl⟩ := encValue_choice_ok h
      simp only [Ty.WF, Bool.and_eq_true] at hw
      obtain ⟨x, hbx, hxw, hxn, hxd, hal⟩ := rt_altS fs i w sub f hf hr hw.1.1 hiw hn hE hb
      rw [hbx]
      exact contentS_single rfl hxw hxn hxd (fun hd tg indef => .choice hal) (.choice hal)
theorem rt_fieldsS : ∀ (fs : Fields) (vs : List Val) (b : Bytes) (f : Bool),
    (f = true → cfg.seqOmitEmpty = true) →
    Fields.reg true cfg dm fs = true → Fields.WF fs = true → HasFields fs vs = true →
    noE3F cfg.seqOmitEmpty fs vs = true →
    encFields cfg (mkO dm mc f) fs vs = .ok b →
    ∃ cs, b = serList cs ∧ (∀ c ∈ cs, ChildOk dm c) ∧ IsFields pf fs vs cs ∧
      (emptyF cfg.seqOmitEmpty fs vs = false → cs ≠ [])
  | .nil, [] => fun b f _ _ _ _ _ h => by
      simp only [encFields, Except.ok.injEq] at h
      subst h
      exact ⟨[], by simp [serList], by intro c hc; simp at hc, .nil, nofun⟩
  | .nil, _ :: _ => fun _ _ _ _ _ hf _ _ => nomatch hf
  | .cons _ _ _, [] => fun _ _ _ _ _ hf _ _ => by simp [HasFields] at hf
  | .cons kd t rest, v :: vs => fun b f hfl hr hw hf hn h => by
      obtain ⟨⟨hr2, hw2, hf2, hn2⟩, hm⟩ := member_hyps hr hw hf hn
      rcases (encFields_cons_ok (mkO_member cfg dm mc f kd)).mp h with ⟨hs, h⟩ | ⟨hs, b1, b2, hb1, hb2, rfl⟩
      · obtain ⟨cs, h1, h2, h3, h4⟩ := rt_fieldsS rest vs b f hfl hr2 hw2 hf2 hn2 h
        exact ⟨cs, h1, h2, isFields_skipped hf hs h3, fun he => h4 (emptyF_skip hs ▸ he)⟩
      · obtain ⟨hr1, hw1, hty, hn1, hne⟩ := hm hs
        have hfl' : (if cfg.seqOmitEmpty then kd.isOpt else f) = true → cfg.seqOmitEmpty = true := by
          cases hom : cfg.seqOmitEmpty with
          | true => intro _; rfl
          | false => simpa [hom] using hfl
        have hE' : (if cfg.seqOmitEmpty then kd.isOpt else f) = true →
            emptyC cfg.seqOmitEmpty t v = false :=
          fun hh => hne (hfl' hh) (by simpa [hfl' hh] using hh)
        obtain ⟨x, hbx, hxw, hxn, hxd, hxb⟩ := goodS_of_item hr1 hw1 hE' (fun sub ic he =>
          rt_contentS t v sub ic _ hfl' hr1 hw1 hty hn1 hE' he) hb1
        obtain ⟨cs, h1, h2, h3, _⟩ := rt_fieldsS rest vs b2 _ hfl' hr2 hw2 hf2 hn2 hb2
        exact ⟨x :: cs, by simp [serList_cons, hbx, h1], List.forall_mem_cons.mpr ⟨⟨hxw, hxn, hxd⟩, h2⟩,
          .present hxb h3, fun _ => by simp⟩
theorem rt_setS : ∀ (fs : Fields) (vs : List Val) (ms : List (TagSet × Bytes)) (ord : SetOrder) (f : Bool),
    cfg.seqOmitEmpty = true →
    Fields.reg true cfg dm fs = true → Fields.WF fs = true → HasFields fs vs = true →
    noE3F cfg.seqOmitEmpty fs vs = true →
    encSetMembers cfg (mkO dm mc f) ord fs vs = .ok ms →
    ∃ ps : List (TagSet × TLV), ms = ps.map (fun p => (p.1, p.2.ser)) ∧ (∀ p ∈ ps, ChildOk dm p.2) ∧
      IsFields pf fs vs (ps.map (·.2)) ∧ (emptyF cfg.seqOmitEmpty fs vs = false → ps ≠ [])
  | .nil, [] => fun ms ord f _ _ _ _ _ h => by
      simp only [encSetMembers, Except.ok.injEq] at h
      subst h
      exact ⟨[], rfl, by intro p hp; simp at hp, .nil, nofun⟩
  | .nil, _ :: _ => fun _ _ _ _ _ _ hf _ _ => nomatch hf
  | .cons _ _ _, [] => fun _ _ _ _ _ _ hf _ _ => by simp [HasFields] at hf
  | .cons kd t rest, v :: vs => fun ms ord f hom hr hw hf hn h => by
      obtain ⟨⟨hr2, hw2, hf2, hn2⟩, hm⟩ := member_hyps hr hw hf hn
      rcases encSetMembers_cons_ok.mp h with ⟨hs, h⟩ | ⟨hs, b1, ms2, hb1, hb2, rfl⟩
      · obtain ⟨ps, h1, h2, h3, h4⟩ := rt_setS rest vs ms ord f hom hr2 hw2 hf2 hn2 h
        exact ⟨ps, h1, h2, isFields_skipped hf hs h3, fun he => h4 (emptyF_skip hs ▸ he)⟩
      · obtain ⟨hr1, hw1, hty, hn1, hne⟩ := hm hs
        obtain ⟨x, hbx, hxw, hxn, hxd, hxb⟩ := goodS_of_item (f := kd.isOpt) hr1 hw1 (hne hom) (fun sub ic he =>
          rt_contentS t v sub ic _ (fun _ => hom) hr1 hw1 hty hn1 (hne hom) he) hb1
        obtain ⟨ps, h1, h2, h3, _⟩ := rt_setS rest vs ms2 ord f hom hr2 hw2 hf2 hn2 hb2
        exact ⟨(setKey ord t v, x) :: ps, by simp [hbx, h1], List.forall_mem_cons.mpr ⟨⟨hxw, hxn, hxd⟩, h2⟩,
          .present hxb h3, fun _ => by simp⟩
theorem rt_altS : ∀ (fs : Fields) (i : Nat) (v : Val) (b : Bytes) (f : Bool),
    (f = true → cfg.seqOmitEmpty = true) →
    Fields.reg true cfg dm fs = true → Fields.WF fs = true → HasAlt fs i v = true →
    noE3Alt cfg.seqOmitEmpty fs i v = true → (f = true → emptyAlt cfg.seqOmitEmpty fs i v = false) →
    encAlt cfg (mkO dm mc f) fs i v = .ok b →
    ∃ x : TLV, b = x.ser ∧ x.WF ∧ NotEoo x.ser ∧ x.lenForm dm = true ∧ IsAlt pf fs i v x
  | .nil, _ => fun _ _ _ _ _ _ ha _ _ _ => nomatch ha
  | .cons kd t rest, 0 => fun v b f hfl hr hw ha hn hE h => by
      simp only [Fields.reg, Bool.and_eq_true] at hr
      obtain ⟨x, hbx, hxw, hxn, hxd, hxb⟩ := goodS_of_item hr.1 (Fields.WF_cons hw).1 hE (fun sub ic he =>
        rt_contentS t v sub ic f hfl hr.1 (Fields.WF_cons hw).1 ha hn hE he) h
      exact ⟨x, hbx, hxw, hxn, hxd, .here hxb⟩
  | .cons kd t rest, i + 1 => fun v b f hfl hr hw ha hn hE h => by
      simp only [Fields.reg, Bool.and_eq_true] at hr
      obtain ⟨x, h1, h2, h3, h4, h5⟩ := rt_altS rest i v b f hfl hr.2 (Fields.WF_cons hw).2.1 ha hn hE h
      exact ⟨x, h1, h2, h3, h4, .there h5⟩
end

/-- **the encoders write encodings**: whatever `encode` returns for a value of the region is the
    serialisation of one well-formed element that the rules (under the profile) allow as an
    encoding of that value -/
theorem encode_spec (f : Bool) (hf : f = false) (t : Ty) (v : Val) (b : Bytes)
    (hreg : t.reg true cfg dm = true) (hwf : t.WF = true) (hty : HasType t v = true)
    (hn : noE3 cfg.seqOmitEmpty t v = true)
    (h : finishItem cfg (mkO dm mc f) t (encValue cfg (mkO dm mc f) t v) = .ok b) :
    GoodS pf dm t v b := by
  subst hf
  exact goodS_of_item hreg hwf (by simp) (fun sub ic he =>
    rt_contentS cfg pf dm mc hR t v sub ic false (by simp) hreg hwf hty hn (by simp) he) h

end Asn1
