/-
  Proofs.NativeTree — encoding a plain-Python tree with the type gives the bytes of the value object.
-/
import Asn1.Native
import Proofs.NativeText
import Proofs.NativeBase

namespace Asn1.Native

theorem val_beq_def (a b : Val) : (a == b) = Val.beq a b := rfl

theorem map_beq {α β} [BEq α] [BEq β] (f : α → β) (hf : ∀ x y, (f x == f y) = (x == y)) :
    ∀ a b : List α, (a.map f == b.map f) = (a == b)
  | [], [] | [], _ :: _ | _ :: _, [] => rfl
  | x :: a, y :: b => by simp only [List.map, List.cons_beq_cons, hf, map_beq f hf a b]

/-- Python's `==` of a scalar non-REAL default object with the form the tree gives a value: equality
    of the abstract values where `==` recognises the form, never equal where it does not (NULL as
    None, a character string as bytes — finding D17) -/
theorem pyEq_scalar (g : Bool) : (t : Ty) → ∀ (v d : Val), HasType t v = true → HasType t d = true →
    scalarNonReal t = true → pyEq t d (toTreeG g t v) = .ok (recognised t && v == d)
  | .tagged _ _ _ t => pyEq_scalar g t
  | .prim p => fun v d hv hd hs => by
    cases p
    case boolean =>
      obtain ⟨b, rfl⟩ := hasType_bool hv; obtain ⟨c, rfl⟩ := hasType_bool hd
      cases b <;> cases c <;> rfl
    case integer =>
      obtain ⟨z, rfl⟩ := hasType_int hv; obtain ⟨w, rfl⟩ := hasType_int hd
      exact congrArg Except.ok BEq.comm
    case enumerated =>
      obtain ⟨z, rfl⟩ := hasType_enum hv; obtain ⟨w, rfl⟩ := hasType_enum hd
      exact congrArg Except.ok BEq.comm
    case bitString =>
      obtain ⟨bs, rfl⟩ := hasType_bits hv; obtain ⟨cs, rfl⟩ := hasType_bits hd
      show (parseBits (bitsText bs)).map (cs == ·) = _
      rw [parseBits_bitsText]
      exact congrArg Except.ok BEq.comm
    case null => cases hasType_null hv; cases hasType_null hd; rfl
    case oid =>
      obtain ⟨a, rfl⟩ := hasType_oid hv; obtain ⟨b, rfl⟩ := hasType_oid hd
      refine congrArg Except.ok (map_beq Int.ofNat (fun x y => ?_) a b)
      rw [Bool.eq_iff_iff, beq_iff_eq, beq_iff_eq, Int.ofNat.injEq]
    case real => cases hs
    case str n =>
      obtain ⟨bs, rfl⟩ := hasType_str hv; obtain ⟨cs, rfl⟩ := hasType_str hd
      exact congrArg (fun x => Except.ok (n == 4 && x)) BEq.comm
  | .seq _ | .set _ | .seqOf _ | .setOf _ | .choice _ | .any => fun _ _ _ _ hs => nomatch hs

/-- a member the tree gives: the bare-value encoder's DEFAULT test says exactly what the
    value-object encoder's `skipField` says -/
theorem dfltEq_tree (g : Bool) (k : FKind) (t : Ty) (v : Val) (hv : HasType t v = true)
    (hk : memberOk g k t = true) (hs : skipTree g k v = false) :
    dfltEq k t (toTreeG g t v) = .ok (skipField k v) := by
  cases k with
  | req => rfl
  | opt =>
    cases v with
    | absent => cases hs
    | _ => rfl
  | dflt d =>
    simp only [memberOk, Bool.and_eq_true, Bool.or_eq_true, Bool.not_eq_true'] at hk
    obtain ⟨⟨hd, hsn⟩, hg⟩ := hk
    show pyEq t d (toTreeG g t v) = .ok (v == d)
    rw [pyEq_scalar g t v d hv hd hsn]
    rcases hg with rfl | hr
    · -- an unrecognised form is only met when the member does not hold its default
      have : (v == d) = false := by simpa [skipTree] using hs
      rw [this, Bool.and_false]
    · rw [hr, Bool.true_and]

theorem skipTree_skipField (g : Bool) (k : FKind) (v : Val) (h : skipTree g k v = true) :
    skipField k v = true := by
  cases k with
  | req => cases h
  | opt =>
    cases v with
    | absent => rfl
    | _ => cases h
  | dflt d => exact (Bool.and_eq_true _ _ ▸ h).2

theorem skipTree_isReq (g : Bool) (k : FKind) (v : Val) (h : skipTree g k v = true) :
    k.isReq = false := by
  cases k with
  | req => cases h
  | _ => rfl

/-- the keys of the mapping built for the members from position `i` on are all `≥ i` -/
theorem lookup_treeFields_lt (g : Bool) : (fs : Fields) → ∀ (i : Nat) (vs : List Val) (j : Nat),
    j < i → lookupKey j (treeFields g fs i vs) = none
  | .nil => fun _ _ _ _ => rfl
  | .cons k t rest => fun i vs j h => by
    cases vs with
    | nil => rfl
    | cons v vs' =>
      dsimp only [treeFields]
      split
      · exact lookup_treeFields_lt g rest (i + 1) vs' j (by omega)
      · rw [lookupKey_ne _ _ (by omega)]
        exact lookup_treeFields_lt g rest (i + 1) vs' j (by omega)

/-- an entry with a smaller key is never looked at by the members from position `j` on -/
theorem encFieldsPy_cons_lt (cfg : EncCfg) : (fs : Fields) → ∀ (o : EncOpts) (j k : Nat) (p : PyVal)
    (kvs : List (Nat × PyVal)), k < j →
    encFieldsPy cfg o fs j ((k, p) :: kvs) = encFieldsPy cfg o fs j kvs
  | .nil => fun _ _ _ _ _ _ => rfl
  | .cons kind t rest => fun o j k p kvs h => by
    dsimp only [encFieldsPy]
    simp only [lookupKey_ne p kvs (by omega : k ≠ j),
      fun o => encFieldsPy_cons_lt cfg rest o (j + 1) k p kvs (by omega)]

theorem encSetMembersPy_cons_lt (cfg : EncCfg) (ord : SetOrder) : (fs : Fields) → ∀ (o : EncOpts) (j k : Nat)
    (p : PyVal) (kvs : List (Nat × PyVal)), k < j →
    encSetMembersPy cfg o ord fs j ((k, p) :: kvs) = encSetMembersPy cfg o ord fs j kvs
  | .nil => fun _ _ _ _ _ _ => rfl
  | .cons kind t rest => fun o j k p kvs h => by
    dsimp only [encSetMembersPy]
    simp only [lookupKey_ne p kvs (by omega : k ≠ j),
      fun o => encSetMembersPy_cons_lt cfg ord rest o (j + 1) k p kvs (by omega)]

theorem countPresent_single_lt : (fs : Fields) → ∀ (j k : Nat) (p : PyVal), k < j →
    countPresent fs j [(k, p)] = 0
  | .nil => fun _ _ _ _ => rfl
  | .cons _ _ rest => fun j k p h => by
    dsimp only [countPresent]
    rw [lookupKey_ne p [] (by omega : k ≠ j), countPresent_single_lt rest (j + 1) k p (by omega)]
    rfl

theorem lookup_treeAlt_lt (g : Bool) : (fs : Fields) → ∀ (pos i : Nat) (v : Val) (j : Nat),
    j < pos → lookupKey j (treeAlt g fs pos i v) = none
  | .nil, _, _, _, _, _ => rfl
  | .cons _ _ _, pos, 0, v, j, h => lookupKey_ne _ [] (by omega)
  | .cons _ _ rest, pos, i + 1, v, j, h => lookup_treeAlt_lt g rest (pos + 1) i v j (by omega)

/-- the mapping built for a CHOICE has exactly one key -/
theorem countPresent_treeAlt (g : Bool) : (fs : Fields) → ∀ (pos i : Nat) (v : Val),
    HasAlt fs i v = true → countPresent fs pos (treeAlt g fs pos i v) = 1
  | .nil, _, _, _, h => by cases h
  | .cons _ t rest, pos, 0, v, _ => by
    dsimp only [treeAlt, countPresent]
    rw [lookupKey_self, countPresent_single_lt rest (pos + 1) pos _ (by omega)]
    rfl
  | .cons _ _ rest, pos, i + 1, v, h => by
    dsimp only [treeAlt, countPresent]
    rw [lookup_treeAlt_lt g rest (pos + 1) i v pos (by omega),
      countPresent_treeAlt g rest (pos + 1) i v h]
    rfl

theorem tagged_tags_ne_nil (e : Bool) (c : TagClass) (n : Nat) (t : Ty) :
    (Ty.tagged e c n t).tags.isEmpty = false := by
  cases e
  · simp only [Ty.tags, TagSet.tagImplicitly]
    split <;> simp
  · simp [Ty.tags]

theorem effTags_choice (fs : Fields) (i : Nat) (v : Val) :
    effTags (.choice fs) (.choice i v)
      = (match fs.get? i with | some (_, ti) => effTags ti v | none => []) := by
  cases hg : fs.get? i with
  | none => rw [effTags]; simp [Ty.tags, Ty.base, hg]
  | some kt => obtain ⟨k, ti⟩ := kt; rw [effTags]; simp [Ty.tags, Ty.base, hg]

/-- the sort key of a SET member given as a bare value descends through nested untagged CHOICEs to
    the tag set the value object is encoded under -/
theorem effTagsPy_all (g : Bool) :
    (∀ t v, HasType t v = true → effTagsPy t (toTreeG g t v) = .ok (effTags t v)) ∧
    (∀ fs i v, HasAlt fs i v = true → ∀ pos, effTagsPyAlts fs pos (treeAlt g fs pos i v)
      = .ok (match fs.get? i with | some (_, ti) => effTags ti v | none => [])) ∧
    (∀ fs vs, HasFields fs vs = true → True) := by
  apply hasType_induct
  case tagged =>
    intro e c n t v _ _
    have ht := tagged_tags_ne_nil e c n t
    cases v <;> simp [effTagsPy, effTags, ht]
  case choice =>
    intro fs i v h ih
    dsimp only [toTreeG, effTagsPy]
    rw [countPresent_treeAlt g fs 0 i v h, effTags_choice]
    exact ih 0
  case here =>
    intro k t rest v _ ih pos
    dsimp only [treeAlt, effTagsPyAlts, Fields.get?]
    rw [lookupKey_self]
    exact ih
  case there =>
    intro k t rest i v _ ih pos
    dsimp only [treeAlt, effTagsPyAlts, Fields.get?]
    rw [lookup_treeAlt_lt g rest (pos + 1) i v pos (by omega)]
    exact ih (pos + 1)
  case nil | absent | present => intros; trivial
  -- every other type carries its own tags
  case boolean | integer | enumerated | bitString | null | oid | real | str | seq | set | seqOf | setOf | any =>
    intros; rfl

theorem effTagsPy_tree (g : Bool) (t : Ty) (v : Val) (h : HasType t v = true) :
    effTagsPy t (toTreeG g t v) = .ok (effTags t v) :=
  (effTagsPy_all g).1 t v h

theorem effTagsPyAlts_tree (g : Bool) : (fs : Fields) → ∀ (pos i : Nat) (v : Val), HasAlt fs i v = true →
    effTagsPyAlts fs pos (treeAlt g fs pos i v)
      = .ok (match fs.get? i with | some (_, ti) => effTags ti v | none => []) :=
  fun fs pos i v h => (effTagsPy_all g).2.1 fs i v h pos

theorem setKeyPy_tree (g : Bool) (ord : SetOrder) (t : Ty) (v : Val) (h : HasType t v = true) :
    setKeyPy ord t (toTreeG g t v) = .ok (setKey ord t v) := by
  cases t with
  | choice fs =>
    cases ord
    · rfl
    · rfl
    · exact effTagsPy_tree g (.choice fs) v h
  | _ => cases ord <;> rfl

theorem fieldsDefaultsOk_cons (g : Bool) (k : FKind) (t : Ty) (rest : Fields)
    (h : fieldsDefaultsOk g (.cons k t rest) = true) :
    memberOk g k t = true ∧ defaultsOk g t = true ∧ fieldsDefaultsOk g rest = true := by
  simp only [fieldsDefaultsOk, Bool.and_eq_true] at h
  exact ⟨h.1.1, h.1.2, h.2⟩

/-- the claim about the members of a SEQUENCE / SET from position `i` on, in declared order and
    as keyed set members -/
def FieldsAgree (cfg : EncCfg) (g : Bool) (fs : Fields) (vs : List Val) : Prop :=
  ∀ (o : EncOpts) (i : Nat), fieldsDefaultsOk g fs = true →
    encFieldsPy cfg o fs i (treeFields g fs i vs) = encFields cfg o fs vs ∧
    ∀ ord, encSetMembersPy cfg o ord fs i (treeFields g fs i vs) = encSetMembers cfg o ord fs vs

/-- a member the tree leaves out is one the value-object encoder skips -/
theorem fieldsAgree_skipped {cfg : EncCfg} {g : Bool} {k : FKind} {v : Val} (t : Ty) {rest : Fields}
    {vs : List Val} (hs : skipTree g k v = true) (ih : FieldsAgree cfg g rest vs) :
    FieldsAgree cfg g (.cons k t rest) (v :: vs) := by
  intro o i hd
  obtain ⟨ihF, ihS⟩ := ih o (i + 1) (fieldsDefaultsOk_cons g k t rest hd).2.2
  have hl := lookup_treeFields_lt g rest (i + 1) vs i (by omega)
  refine ⟨?_, fun ord => ?_⟩
  · dsimp only [treeFields, encFields]
    simp only [hs, if_true, encFieldsPy, hl, skipTree_isReq g k v hs, Bool.false_eq_true, if_false,
      ihF, skipTree_skipField g k v hs]
  · dsimp only [treeFields, encSetMembers]
    simp only [hs, if_true, encSetMembersPy, hl, skipTree_isReq g k v hs, Bool.false_eq_true,
      if_false, ihS, skipTree_skipField g k v hs]

/-- the elements of a SEQUENCE OF / SET OF encode alike once each of them does -/
theorem items_tree {cfg : EncCfg} {g : Bool} {o : EncOpts} {t : Ty} {vs : List Val}
    (h : ∀ v ∈ vs, encValuePy cfg o t (toTreeG g t v) = encValue cfg o t v) :
    (vs.map (toTreeG g t)).map (fun p => finishItem cfg o t (encValuePy cfg o t p))
      = vs.map (fun v => finishItem cfg o t (encValue cfg o t v)) := by
  rw [List.map_map]
  exact List.map_congr_left fun v hv => congrArg (finishItem cfg o t) (h v hv)

theorem pt_all (cfg : EncCfg) (g : Bool) :
    (∀ t v, HasType t v = true → ∀ o, defaultsOk g t = true →
      encValuePy cfg o t (toTreeG g t v) = encValue cfg o t v) ∧
    (∀ fs i v, HasAlt fs i v = true → ∀ o pos, fieldsDefaultsOk g fs = true →
      encAltPy cfg o fs pos (treeAlt g fs pos i v) = encAlt cfg o fs i v) ∧
    (∀ fs vs, HasFields fs vs = true → FieldsAgree cfg g fs vs) := by
  apply hasType_induct
  case tagged => exact fun _ _ _ _ _ _ ih => ih
  case bitString =>
    intro bs o _
    dsimp only [encValuePy, toTreeG, bitsOfPy]
    rw [parseBits_bitsText]
  case oid =>
    intro arcs o _
    dsimp only [encValuePy, toTreeG]
    rw [arcsOfTuple_ofNat]
  case seq =>
    intro fs vs _ ih o hd
    dsimp only [toTreeG, encValuePy, encValue]
    rw [(ih o 0 hd).1]
  case set =>
    intro fs vs _ ih o hd
    obtain ⟨ihF, ihS⟩ := ih o 0 hd
    dsimp only [toTreeG, encValuePy, encValue]
    simp only [ihF, ihS]
    cases cfg.setOrder <;> rfl
  case seqOf =>
    intro t vs _ ih o hd
    dsimp only [toTreeG, encValuePy, encValue]
    simp only [fun o' => items_tree (ih · · o' hd), List.isEmpty_map]
  case setOf =>
    intro t vs _ ih o hd
    dsimp only [toTreeG, encValuePy, encValue]
    simp only [fun o' => items_tree (ih · · o' hd)]
  case choice =>
    intro fs i v h ih o hd
    dsimp only [toTreeG, encValuePy, encValue]
    rw [countPresent_treeAlt g fs 0 i v h, ih o 0 hd]
    rfl
  case here =>
    intro k t rest v _ ih o pos hd
    dsimp only [treeAlt, encAltPy, encAlt]
    rw [lookupKey_self]
    exact congrArg (finishItem cfg o t) (ih o (fieldsDefaultsOk_cons g k t rest hd).2.1)
  case there =>
    intro k t rest i v _ ih o pos hd
    dsimp only [treeAlt, encAltPy, encAlt]
    rw [lookup_treeAlt_lt g rest (pos + 1) i v pos (by omega)]
    exact ih o (pos + 1) (fieldsDefaultsOk_cons g k t rest hd).2.2
  case nil => exact fun o i _ => ⟨rfl, fun _ => rfl⟩
  case absent => exact fun t rest vs _ ih => fieldsAgree_skipped t rfl ih
  case present =>
    intro k t rest v vs hv ihv _ ih
    cases hs : skipTree g k v with
    | true => exact fieldsAgree_skipped t hs ih
    | false =>
      intro o i hd
      obtain ⟨hk, hdt, hdr⟩ := fieldsDefaultsOk_cons g k t rest hd
      have hF := fun o => encFieldsPy_cons_lt cfg rest o (i + 1) i (toTreeG g t v)
        (treeFields g rest (i + 1) vs) (by omega)
      have hS := fun ord o => encSetMembersPy_cons_lt cfg ord rest o (i + 1) i (toTreeG g t v)
        (treeFields g rest (i + 1) vs) (by omega)
      refine ⟨?_, fun ord => ?_⟩
      · dsimp only [treeFields, encFields]
        rw [hs, if_neg Bool.false_ne_true]
        dsimp only [encFieldsPy]
        rw [lookupKey_self]
        dsimp only
        rw [dfltEq_tree g k t v hv hk hs]
        cases skipField k v
        · dsimp only
          rw [if_neg Bool.false_ne_true, ihv _ hdt, hF, (ih _ (i + 1) hdr).1]
          rfl
        · exact (hF o).trans (ih o (i + 1) hdr).1
      · dsimp only [treeFields, encSetMembers]
        rw [hs, if_neg Bool.false_ne_true]
        dsimp only [encSetMembersPy]
        rw [lookupKey_self]
        dsimp only
        rw [dfltEq_tree g k t v hv hk hs]
        cases skipField k v
        · dsimp only
          rw [if_neg Bool.false_ne_true, ihv _ hdt, hS, (ih _ (i + 1) hdr).2 ord, setKeyPy_tree g ord t v hv]
          rfl
        · exact (hS ord o).trans ((ih o (i + 1) hdr).2 ord)
  -- a scalar's tree is its payload
  case boolean | integer | enumerated | null | real | str | any => intros; rfl

theorem pt (cfg : EncCfg) (g : Bool) (t : Ty) (o : EncOpts) (v : Val) (h : HasType t v = true)
    (hd : defaultsOk g t = true) : encValuePy cfg o t (toTreeG g t v) = encValue cfg o t v :=
  (pt_all cfg g).1 t v h o hd

/-- `encode(tree, asn1Spec=T)` gives what `encode(value)` gives, bytes or refusal, whether or not
    the tree gives the DEFAULT members that hold their default -/
theorem encodePy_tree (cfg : EncCfg) (g : Bool) (o : EncOpts) (t : Ty) (v : Val)
    (h : HasType t v = true) (hd : defaultsOk g t = true) :
    encodePy cfg o t (toTreeG g t v) = encItem cfg o t v :=
  congrArg (finishItem cfg (normOpts cfg o) t) (pt cfg g t (normOpts cfg o) v h hd)

theorem ptFields (cfg : EncCfg) (g : Bool) : (fs : Fields) → ∀ (o : EncOpts) (i : Nat) (vs : List Val),
    HasFields fs vs = true → fieldsDefaultsOk g fs = true →
    encFieldsPy cfg o fs i (treeFields g fs i vs) = encFields cfg o fs vs :=
  fun fs o i vs h hd => ((pt_all cfg g).2.2 fs vs h o i hd).1

theorem ptSet (cfg : EncCfg) (g : Bool) (ord : SetOrder) : (fs : Fields) → ∀ (o : EncOpts) (i : Nat)
    (vs : List Val), HasFields fs vs = true → fieldsDefaultsOk g fs = true →
    encSetMembersPy cfg o ord fs i (treeFields g fs i vs) = encSetMembers cfg o ord fs vs :=
  fun fs o i vs h hd => ((pt_all cfg g).2.2 fs vs h o i hd).2 ord

theorem ptAlt (cfg : EncCfg) (g : Bool) : (fs : Fields) → ∀ (o : EncOpts) (pos i : Nat) (v : Val),
    HasAlt fs i v = true → fieldsDefaultsOk g fs = true →
    encAltPy cfg o fs pos (treeAlt g fs pos i v) = encAlt cfg o fs i v :=
  fun fs o pos i v h hd => (pt_all cfg g).2.1 fs i v h o pos hd

end Asn1.Native
